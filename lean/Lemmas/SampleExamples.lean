/-
Lemmas.SampleExamples — what the dialog lookup makes of the two sample requests `invite` (no dialog)
and `bye` (the pinned dialog `dlg`), evaluated once each; the examples of Props/C03 and Props/C04 cite it.
-/
import Lemmas.SampleFixture
import Lemmas.Relay
open GoStd Sip Proxy

namespace Lemmas.Sample

theorem invite_noDialog : isRequest invite = true ∧ (getDialog cfg.cm invite).1 = none := by
  simp only [fixture]; decide +kernel

theorem bye_pinned : isRequest bye = true ∧ (getDialog cfg.cm bye).1 = some dlg ∧ dlg ≠ [] ∧
    pinGet st.pins dlg = some (.member b1) := by
  simp only [fixture]; decide +kernel

theorem dispatch_b2 : (Side.RR.dispatch st.rr).2 = some b2 := by
  simp only [fixture]; decide +kernel

theorem fbd_invite : (findBackendByDialog cfg st invite).1 = none := by
  rw [(findBackendByDialog_request cfg st invite invite_noDialog.1).1, invite_noDialog.2]

theorem fbd_bye : (findBackendByDialog cfg st bye).1 = some (.member b1) := by
  rw [(findBackendByDialog_request cfg st bye bye_pinned.1).1, bye_pinned.2.1]
  exact bye_pinned.2.2.2

end Lemmas.Sample
