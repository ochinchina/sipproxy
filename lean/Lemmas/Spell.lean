/-
Lemmas.Spell — re-spelling header names inside their classes is invisible to EVERY header-list
operation of `Sip.Message` (A1), to the serialiser up to the spelling itself (A2), and concrete
spellings (letter case, compact form) are re-spellings for a sane compact table (A4).

Everything is stated for the way the code calls `isSameHeader`: the wire name FIRST, a canonical
constant of the code SECOND (`isSameHeader cm h.name key`). `isSameHeader` is not symmetric in
general (section `Asymmetry`).

A1, A2, A4 are section numbers of Props/C17.lean, whose header lays out the property text (parts A, B).
-/
import Lemmas.Headers
import Lemmas.Abs
open GoStd Sip

namespace Lemmas

/-! ### A1. the relation on lists and messages -/

section
variable (cm : List (Bytes × Bytes)) (P : Bytes → Prop)

theorem Respelled.symm {h h' : Header} (r : Respelled cm P h h') : Respelled cm P h' h :=
  ⟨r.1.symm, fun n hn => (r.2 n hn).symm⟩

theorem Respelled.trans {a b c : Header} (r : Respelled cm P a b) (s : Respelled cm P b c) : Respelled cm P a c :=
  ⟨r.1.trans s.1, fun n hn => (r.2 n hn).trans (s.2 n hn)⟩

theorem RespelledList.refl (hs : List Header) : RespelledList cm P hs hs := by
  induction hs with
  | nil => exact .nil
  | cons h hs ih => exact .cons (respelled_refl cm P h) ih

theorem RespelledList.symm {hs hs' : List Header} (H : RespelledList cm P hs hs') : RespelledList cm P hs' hs := by
  induction H with
  | nil => exact .nil
  | cons hr _ ih => exact .cons (Respelled.symm cm P hr) ih

theorem RespelledList.trans {a b c : List Header} (H : RespelledList cm P a b) (K : RespelledList cm P b c) :
    RespelledList cm P a c := by
  induction H generalizing c with
  | nil => cases K; exact .nil
  | cons hr _ ih =>
    cases K with
    | cons hr' K' => exact .cons (Respelled.trans cm P hr hr') (ih K')

theorem RespelledList.length_eq {hs hs' : List Header} (H : RespelledList cm P hs hs') : hs.length = hs'.length := by
  induction H with
  | nil => rfl
  | cons _ _ ih => simp [ih]

theorem RespelledList.values_eq {hs hs' : List Header} (H : RespelledList cm P hs hs') :
    hs.map (·.value) = hs'.map (·.value) := by
  induction H with
  | nil => rfl
  | cons hr _ ih => simp [hr.1, ih]

theorem RespelledList.classes_eq {hs hs' : List Header} (H : RespelledList cm P hs hs') (name : Bytes) (hn : P name) :
    hs.map (fun h => isSameHeader cm h.name name) = hs'.map (fun h => isSameHeader cm h.name name) := by
  induction H with
  | nil => rfl
  | cons hr _ ih => simp [hr.2 name hn, ih]

theorem RespelledList.append {a a' b b' : List Header} (H : RespelledList cm P a a') (K : RespelledList cm P b b') :
    RespelledList cm P (a ++ b) (a' ++ b') := by
  induction H with
  | nil => exact K
  | cons hr _ ih => exact .cons hr ih

theorem RespelledList.take {hs hs' : List Header} (H : RespelledList cm P hs hs') (p : Nat) :
    RespelledList cm P (hs.take p) (hs'.take p) := by
  induction H generalizing p with
  | nil => simp; exact .nil
  | cons hr _ ih =>
    cases p with
    | zero => exact .nil
    | succ p => exact .cons hr (ih p)

theorem RespelledList.drop {hs hs' : List Header} (H : RespelledList cm P hs hs') (p : Nat) :
    RespelledList cm P (hs.drop p) (hs'.drop p) := by
  induction H generalizing p with
  | nil => simp; exact .nil
  | cons hr hrest ih =>
    cases p with
    | zero => exact .cons hr hrest
    | succ p => exact ih p

theorem RespelledList.filter {hs hs' : List Header} (H : RespelledList cm P hs hs') (q : Header → Bool)
    (hq : ∀ a b, Respelled cm P a b → q a = q b) : RespelledList cm P (hs.filter q) (hs'.filter q) := by
  induction H with
  | nil => exact .nil
  | @cons a b _ _ hr _ ih =>
    simp only [List.filter_cons, ← hq a b hr]
    cases q a with
    | true => exact .cons hr ih
    | false => exact ih

theorem findHeaderPos_respelled {hs hs' : List Header} (H : RespelledList cm P hs hs') {name : Bytes} (hn : P name) :
    findHeaderPos cm hs name = findHeaderPos cm hs' name := by
  induction H with
  | nil => rfl
  | cons hr _ ih => simp only [findHeaderPos, hr.2 name hn, ih]

theorem removeHeader_respelled {hs hs' : List Header} (H : RespelledList cm P hs hs') {name : Bytes} (hn : P name) :
    RespelledList cm P (removeHeader cm hs name) (removeHeader cm hs' name) := by
  induction H with
  | nil => exact .nil
  | @cons a b _ _ hr hrest ih =>
    simp only [removeHeader, ← hr.2 name hn]
    cases isSameHeader cm a.name name with
    | true => exact hrest
    | false => exact .cons hr ih

theorem insertAt_respelled {hs hs' : List Header} (H : RespelledList cm P hs hs') (p : Nat) {x x' : Header}
    (hx : Respelled cm P x x') : RespelledList cm P (insertAt hs p x) (insertAt hs' p x') :=
  RespelledList.append cm P (H.take cm P p) (.cons hx (H.drop cm P p))

theorem findHeader_isSome_respelled {hs hs' : List Header} (H : RespelledList cm P hs hs') {name : Bytes} (hn : P name) :
    (findHeader cm hs name).isSome = (findHeader cm hs' name).isSome := by
  rcases findHeader_respelled cm P H hn with ⟨h1, h2⟩ | ⟨a, b, h1, h2, _⟩ <;> rw [h1, h2] <;> rfl

theorem findRecordRoutePos_respelled {hs hs' : List Header} (H : RespelledList cm P hs hs')
    (h1 : P recordRouteName) (h2 : P fromName) (h3 : P maxForwardsName) :
    findRecordRoutePos cm hs = findRecordRoutePos cm hs' := by
  unfold findRecordRoutePos
  rw [findHeaderPos_respelled cm P H h1, findHeaderPos_respelled cm P H h2, findHeaderPos_respelled cm P H h3]

theorem forEachViaHeaders_respelled {hs hs' : List Header} (H : RespelledList cm P hs hs') (hn : P viaName) :
    RespelledList cm P (forEachViaHeaders cm hs).1 (forEachViaHeaders cm hs').1 ∧
    (forEachViaHeaders cm hs).2 = (forEachViaHeaders cm hs').2 := by
  induction H with
  | nil => exact ⟨.nil, rfl⟩
  | @cons a b l₁ l₂ hr _ ih =>
    rw [forEachViaHeaders_cons, forEachViaHeaders_cons, ← hr.2 viaName hn, ← hr.1, ← ih.2]
    cases isSameHeader cm a.name viaName with
    | false => exact ⟨.cons hr ih.1, rfl⟩
    | true =>
      simp only [Bool.not_true, Bool.false_eq_true, ↓reduceIte]
      cases hv : a.value with
      | raw s =>
        simp only []
        cases parseVia s with
        | none => exact ⟨.cons hr ih.1, rfl⟩
        | some v => exact ⟨.cons ⟨rfl, hr.2⟩ ih.1, rfl⟩
      | _ => exact ⟨.cons hr ih.1, rfl⟩

structure MsgRespelled (m m' : Message) : Prop where
  start : m.start = m'.start
  body : m.body = m'.body
  headers : RespelledList cm P m.headers m'.headers

theorem MsgRespelled.refl (m : Message) : MsgRespelled cm P m m := ⟨rfl, rfl, RespelledList.refl cm P _⟩

theorem MsgRespelled.symm {m m' : Message} (H : MsgRespelled cm P m m') : MsgRespelled cm P m' m :=
  ⟨H.start.symm, H.body.symm, H.headers.symm cm P⟩

theorem MsgRespelled.trans {a b c : Message} (H : MsgRespelled cm P a b) (K : MsgRespelled cm P b c) :
    MsgRespelled cm P a c :=
  ⟨H.start.trans K.start, H.body.trans K.body, H.headers.trans cm P K.headers⟩

theorem MsgRespelled.withHeaders {m m' : Message} (H : MsgRespelled cm P m m') {hs hs' : List Header}
    (K : RespelledList cm P hs hs') : MsgRespelled cm P { m with headers := hs } { m' with headers := hs' } :=
  ⟨H.start, H.body, K⟩

theorem MsgRespelled.isRequest {m m' : Message} (H : MsgRespelled cm P m m') : isRequest m = isRequest m' := by
  unfold Sip.isRequest; rw [H.start]

theorem MsgRespelled.isResponse {m m' : Message} (H : MsgRespelled cm P m m') : isResponse m = isResponse m' := by
  unfold Sip.isResponse; rw [H.isRequest]

theorem MsgRespelled.isFinalResponse {m m' : Message} (H : MsgRespelled cm P m m') (fc : List Int) :
    isFinalResponse fc m = isFinalResponse fc m' := by
  unfold Sip.isFinalResponse; rw [H.start]

def GR {α : Type} (r r' : Option (α × Message)) : Prop :=
  (r = none ∧ r' = none) ∨ ∃ a m1 m1', r = some (a, m1) ∧ r' = some (a, m1') ∧ MsgRespelled cm P m1 m1'

/-- results of the partial mutators (`popVia`, `popRoute`) -/
def OR (r r' : Option Message) : Prop :=
  (r = none ∧ r' = none) ∨ ∃ m1 m1', r = some m1 ∧ r' = some m1' ∧ MsgRespelled cm P m1 m1'

/-- results of the total getters (`getDialog`, `getClientTransaction`, hops) -/
def PR {α : Type} (r r' : α × Message) : Prop := r.1 = r'.1 ∧ MsgRespelled cm P r.2 r'.2

/-- equal lists have equal first entries -/
theorem GR.head {α : Type} {r r' : Option (List α × Message)} (h : GR cm P r r') : HeadRel (MsgRespelled cm P) r r' := by
  rcases h with h | ⟨v, m1, m1', h1, h2, H1⟩
  · exact Or.inl h
  · exact Or.inr ⟨v, v, m1, m1', h1, h2, rfl, H1⟩

theorem OR.getD {r r' : Option Message} (h : OR cm P r r') {m m' : Message} (H : MsgRespelled cm P m m') :
    MsgRespelled cm P (r.getD m) (r'.getD m') :=
  ORel.getD (R := MsgRespelled cm P) h H

variable {m m' : Message}

theorem getLazy_respelledMsg {α : Type} (S : Slot α) (H : MsgRespelled cm P m m') (hn : P S.name) :
    GR cm P (getLazy cm S m) (getLazy cm S m') :=
  getLazy_respelled cm P S H.headers hn (H.withHeaders cm P)

theorem getVia_respelled (H : MsgRespelled cm P m m') (hn : P viaName) : GR cm P (getVia cm m) (getVia cm m') := by
  rw [getVia_eq, getVia_eq]; exact getLazy_respelledMsg cm P viaSlot H hn

theorem getRoute_respelled (H : MsgRespelled cm P m m') (hn : P routeName) : GR cm P (getRoute cm m) (getRoute cm m') := by
  rw [getRoute_eq, getRoute_eq]; exact getLazy_respelledMsg cm P routeSlot H hn

theorem getFrom_respelledMsg (H : MsgRespelled cm P m m') (hn : P fromName) : GR cm P (getFrom cm m) (getFrom cm m') := by
  rw [getFrom_eq, getFrom_eq]; exact getLazy_respelledMsg cm P fromSlot H hn

theorem getTo_respelledMsg (H : MsgRespelled cm P m m') (hn : P toName) : GR cm P (getTo cm m) (getTo cm m') := by
  rw [getTo_eq, getTo_eq]; exact getLazy_respelledMsg cm P toSlot H hn

theorem getCSeq_respelled (H : MsgRespelled cm P m m') (hn : P cseqName) : GR cm P (getCSeq cm m) (getCSeq cm m') := by
  rw [getCSeq_eq, getCSeq_eq]; exact getLazy_respelledMsg cm P cseqSlot H hn

theorem getRawHeader_respelledMsg (H : MsgRespelled cm P m m') {name : Bytes} (hn : P name) :
    getRawHeader cm m name = getRawHeader cm m' name :=
  getRawHeader_respelled cm P m m' H.headers name hn

theorem getHeaderInt_respelled (H : MsgRespelled cm P m m') {name : Bytes} (hn : P name) :
    getHeaderInt cm m name = getHeaderInt cm m' name := by
  unfold getHeaderInt; rw [getRawHeader_respelledMsg cm P H hn]

theorem getExpires_respelled (H : MsgRespelled cm P m m') (hn : P expiresName) (d : Int) :
    getExpires cm m d = getExpires cm m' d := by
  unfold getExpires; rw [getHeaderInt_respelled cm P H hn]

theorem popLazy_respelled {β : Type} (S : Slot (List β)) (H : MsgRespelled cm P m m') (hn : P S.name) :
    OR cm P (popLazy cm S m) (popLazy cm S m') := by
  unfold popLazy
  rcases getLazy_respelledMsg cm P S H hn with ⟨h1, h2⟩ | ⟨v, m1, m1', h1, h2, H1⟩
  · rw [h1, h2]; exact Or.inl ⟨rfl, rfl⟩
  · rw [h1, h2]
    dsimp only
    split
    · exact Or.inr ⟨_, _, rfl, rfl, H1.withHeaders cm P (setFirst_respelled cm P _ _ H1.headers _ hn _)⟩
    · exact Or.inr ⟨_, _, rfl, rfl, H1.withHeaders cm P (removeHeader_respelled cm P H1.headers hn)⟩

theorem popVia_respelled (H : MsgRespelled cm P m m') (hn : P viaName) : OR cm P (popVia cm m) (popVia cm m') := by
  rw [popVia_eq, popVia_eq]; exact popLazy_respelled cm P viaSlot H hn

theorem popRoute_respelled (H : MsgRespelled cm P m m') (hn : P routeName) : OR cm P (popRoute cm m) (popRoute cm m') := by
  rw [popRoute_eq, popRoute_eq]; exact popLazy_respelled cm P routeSlot H hn

theorem addVia_respelled (H : MsgRespelled cm P m m') (hn : P viaName) (vp : ViaParam) :
    MsgRespelled cm P (addVia cm m vp) (addVia cm m' vp) := by
  unfold addVia
  simp only [findHeaderPos_respelled cm P H.headers hn]
  exact H.withHeaders cm P (insertAt_respelled cm P H.headers _ (respelled_refl cm P _))

theorem addRecordRoute_respelled (H : MsgRespelled cm P m m')
    (h1 : P recordRouteName) (h2 : P fromName) (h3 : P maxForwardsName) (rr : RouteParam) :
    MsgRespelled cm P (addRecordRoute cm m rr) (addRecordRoute cm m' rr) := by
  unfold addRecordRoute
  simp only [findRecordRoutePos_respelled cm P H.headers h1 h2 h3]
  exact H.withHeaders cm P (insertAt_respelled cm P H.headers _ (respelled_refl cm P _))

theorem setReceived_respelled (H : MsgRespelled cm P m m') (hn : P viaName) (ip : Bytes) (port : Int) :
    MsgRespelled cm P (setReceived cm m ip port) (setReceived cm m' ip port) := by
  unfold setReceived
  rcases getVia_respelled cm P H hn with ⟨h1, h2⟩ | ⟨v, m1, m1', h1, h2, H1⟩
  · rw [h1, h2]; exact H
  · rw [h1, h2]
    simp only []
    cases v with
    | nil => exact H1
    | cons vp rest => exact H1.withHeaders cm P (setFirst_respelled cm P _ _ H1.headers _ hn _)

/-- the derived getters, by the lifts of `Lemmas.Headers` (`GR`, `PR` are `GRel`, `PRel` of `MsgRespelled`) -/
theorem getMethod_respelled (H : MsgRespelled cm P m m') (hn : P cseqName) :
    GR cm P (getMethod cm m) (getMethod cm m') :=
  GRel.getMethod (R := MsgRespelled cm P) (fun H => H.start) (fun H => getCSeq_respelled cm P H hn) H

theorem getDialog_respelled (H : MsgRespelled cm P m m') (hc : P callIdName) (hf : P fromName) (ht : P toName) :
    PR cm P (getDialog cm m) (getDialog cm m') :=
  PRel.getDialog (R := MsgRespelled cm P) (fun H => getRawHeader_respelledMsg cm P H hc)
    (fun H => getFrom_respelledMsg cm P H hf) (fun H => getTo_respelledMsg cm P H ht) H

theorem getClientTransaction_respelled (H : MsgRespelled cm P m m') (hc : P cseqName) (hv : P viaName) :
    PR cm P (getClientTransaction cm m) (getClientTransaction cm m') :=
  PRel.getClientTransaction (R := MsgRespelled cm P) (fun H => getCSeq_respelled cm P H hc)
    (fun H => (getVia_respelled cm P H hv).head cm P) H

end

/-! ### A2. the serialiser on re-spelled lists

`Message.bytes` prints `name: value` for every header that is not of the Content-Length class and then
its own `Content-Length`. On re-spelled lists the same positions are skipped, and the printed lines
carry equal values under names of the same classes: the two byte strings are equal up to the
spelling of the header names (`BytesRespelled`). -/

section Bytes
variable (cm : List (Bytes × Bytes)) (P : Bytes → Prop)

def headerLine (h : Header) : Bytes := h.name ++ [58, 32] ++ h.value.encode ++ crlf

def printed (hs : List Header) : List Header := hs.filter (fun h => !isSameHeader cm h.name contentLengthName)

theorem encodeHeaders_eq (hs : List Header) : encodeHeaders cm hs = (printed cm hs).flatMap headerLine :=
  encodeHeaders_eq_flatMap cm hs

theorem printed_respelled {hs hs' : List Header} (H : RespelledList cm P hs hs') (hn : P contentLengthName) :
    RespelledList cm P (printed cm hs) (printed cm hs') :=
  H.filter cm P _ (fun _ _ hr => by rw [hr.2 _ hn])

theorem printed_values_eq {hs hs' : List Header} (H : RespelledList cm P hs hs') (hn : P contentLengthName) :
    (printed cm hs).map (fun h => h.value.encode) = (printed cm hs').map (fun h => h.value.encode) := by
  have := congrArg (List.map HVal.encode) ((printed_respelled cm P H hn).values_eq cm P)
  simp only [List.map_map] at this
  exact this

/-- "equal up to the spelling of header names": a common prefix, header lines that are re-spellings of
one another, a common suffix -/
def BytesRespelled (d d' : Bytes) : Prop :=
  ∃ (pre post : Bytes) (ls ls' : List Header), RespelledList cm P ls ls' ∧
    d = pre ++ ls.flatMap headerLine ++ post ∧ d' = pre ++ ls'.flatMap headerLine ++ post

theorem BytesRespelled.refl (d : Bytes) : BytesRespelled cm P d d :=
  ⟨d, [], [], [], .nil, by simp, by simp⟩

theorem bytes_respelled {m m' : Message} (H : MsgRespelled cm P m m') (hn : P contentLengthName) :
    BytesRespelled cm P (m.bytes cm) (m'.bytes cm) := by
  refine ⟨encodeFirstLine m.start,
    contentLengthName ++ [58, 32] ++ natToBytes m.body.length ++ crlf ++ crlf ++ m.body,
    printed cm m.headers, printed cm m'.headers, printed_respelled cm P H.headers hn, ?_, ?_⟩
  · simp [Message.bytes, encodeHeaders_eq]
  · simp [Message.bytes, encodeHeaders_eq, H.start, H.body]

theorem respelled_names_eq {hs hs' : List Header} (H : RespelledList cm P hs hs')
    (hn : hs.map (·.name) = hs'.map (·.name)) : hs = hs' := by
  induction H with
  | nil => rfl
  | @cons a b _ _ hr _ ih =>
    simp only [List.map_cons, List.cons.injEq] at hn
    obtain ⟨an, av⟩ := a
    obtain ⟨bn, bv⟩ := b
    have h1 : av = bv := hr.1
    have h2 : an = bn := hn.1
    rw [h1, h2, ih hn.2]

end Bytes

/-! ### A4. concrete spellings are re-spellings

`isSameHeader cm n key` holds iff the lower-cased wire name `n` is the lower-cased key or the
lower-cased compact form the table gives FOR THE KEY (`lowerClass`). Two names of the same class are
re-spellings of one another w.r.t. a set of keys as soon as the classes of these keys are pairwise
disjoint (`SaneFor`) — true of the generated table, false e.g. when two full names share one compact
form. -/

section Concrete
variable (cm : List (Bytes × Bytes))

/-- the definition, in the direction the code uses it: any letter case of the key … -/
theorem isSameHeader_of_fold {n key : Bytes} (h : equalFold n key = true) : isSameHeader cm n key = true := by
  simp [isSameHeader, h]

/-- … and any letter case of the compact form the table has for the key -/
theorem isSameHeader_of_compact {n key c : Bytes} (hc : getCompact cm key = some c) (h : equalFold n c = true) :
    isSameHeader cm n key = true := by
  simp [isSameHeader, hc, h]

def SaneFor (keys : List Bytes) : Prop :=
  ∀ a ∈ keys, ∀ b ∈ keys, a ≠ b → ∀ x ∈ lowerClass cm a, x ∉ lowerClass cm b

instance (keys : List Bytes) : Decidable (SaneFor cm keys) := by unfold SaneFor; infer_instance

theorem SaneFor.disj {keys : List Bytes} (hs : SaneFor cm keys) {a b : Bytes} (ha : a ∈ keys) (hb : b ∈ keys)
    (hab : a ≠ b) {n : Bytes} (h : isSameHeader cm n a = true) : isSameHeader cm n b = false := by
  rw [isSameHeader_eq_lowerClass] at h ⊢
  have hm : toLower n ∈ lowerClass cm a := by simpa using h
  have := hs a ha b hb hab _ hm
  simpa using this

theorem respelled_of_sameClass {keys : List Bytes} (hs : SaneFor cm keys) {key0 : Bytes} (h0 : key0 ∈ keys)
    {n n' : Bytes} (h : isSameHeader cm n key0 = true) (h' : isSameHeader cm n' key0 = true) (v : HVal) :
    Respelled cm (· ∈ keys) { name := n, value := v } { name := n', value := v } := by
  refine ⟨rfl, fun key hk => ?_⟩
  by_cases e : key0 = key
  · subst e; simp only []; rw [h, h']
  · simp only []
    rw [hs.disj cm h0 hk e h, hs.disj cm h0 hk e h']

theorem respelled_compact {keys : List Bytes} (hs : SaneFor cm keys) {key c : Bytes} (h0 : key ∈ keys)
    (hc : getCompact cm key = some c) {n n' : Bytes} (hn : equalFold n key = true) (hn' : equalFold n' c = true)
    (v : HVal) :
    Respelled cm (· ∈ keys) { name := n, value := v } { name := n', value := v } :=
  respelled_of_sameClass cm hs h0 (isSameHeader_of_fold cm hn) (isSameHeader_of_compact cm hc hn') v

/-- names outside every class looked at can be exchanged freely (the pipeline never reads them) -/
theorem respelled_of_noClass {keys : List Bytes} {n n' : Bytes}
    (h : ∀ key ∈ keys, isSameHeader cm n key = false) (h' : ∀ key ∈ keys, isSameHeader cm n' key = false) (v : HVal) :
    Respelled cm (· ∈ keys) { name := n, value := v } { name := n', value := v } :=
  ⟨rfl, fun key hk => by simp only []; rw [h key hk, h' key hk]⟩

end Concrete

/-- every lookup key of the pipeline (`Proxy.Model` and the `Sip.Message` operations it calls) -/
def pipeKeys : List Bytes :=
  [viaName, routeName, recordRouteName, fromName, toName, cseqName, callIdName, contentLengthName,
   maxForwardsName, expiresName, subscriptionStateName]

attribute [fixture] pipeKeys

def PipeClasses (n : Bytes) : Prop := n ∈ pipeKeys

theorem pc_via : PipeClasses viaName := by simp [PipeClasses, pipeKeys]
theorem pc_route : PipeClasses routeName := by simp [PipeClasses, pipeKeys]
theorem pc_recordRoute : PipeClasses recordRouteName := by simp [PipeClasses, pipeKeys]
theorem pc_from : PipeClasses fromName := by simp [PipeClasses, pipeKeys]
theorem pc_to : PipeClasses toName := by simp [PipeClasses, pipeKeys]
theorem pc_cseq : PipeClasses cseqName := by simp [PipeClasses, pipeKeys]
theorem pc_callId : PipeClasses callIdName := by simp [PipeClasses, pipeKeys]
theorem pc_contentLength : PipeClasses contentLengthName := by simp [PipeClasses, pipeKeys]
theorem pc_maxForwards : PipeClasses maxForwardsName := by simp [PipeClasses, pipeKeys]
theorem pc_expires : PipeClasses expiresName := by simp [PipeClasses, pipeKeys]
theorem pc_subscriptionState : PipeClasses subscriptionStateName := by simp [PipeClasses, pipeKeys]

def checkRespelled (cm : List (Bytes × Bytes)) : List Header → List Header → Bool
  | [], [] => true
  | a :: l, b :: l' =>
    decide (a.value = b.value) && pipeKeys.all (fun k => isSameHeader cm a.name k == isSameHeader cm b.name k)
      && checkRespelled cm l l'
  | _, _ => false

theorem respelledList_of_check (cm : List (Bytes × Bytes)) (hs hs' : List Header)
    (h : checkRespelled cm hs hs' = true) : RespelledList cm PipeClasses hs hs' := by
  induction hs generalizing hs' with
  | nil =>
    cases hs' with
    | nil => exact .nil
    | cons _ _ => simp [checkRespelled] at h
  | cons a l ih =>
    cases hs' with
    | nil => simp [checkRespelled] at h
    | cons b l' =>
      simp only [checkRespelled, Bool.and_eq_true, decide_eq_true_eq, List.all_eq_true, beq_iff_eq] at h
      exact .cons ⟨h.1.1, fun name hn => h.1.2 name hn⟩ (ih l' h.2)

section Real

theorem real_sane : SaneFor realCm pipeKeys := by simp only [fixture]; decide +kernel

/-- Any two spellings of one class — e.g. `Via`, `VIA`, `v`, `V` — are re-spellings of one another. -/
theorem real_respelled {key0 : Bytes} (h0 : PipeClasses key0) {n n' : Bytes}
    (h : isSameHeader realCm n key0 = true) (h' : isSameHeader realCm n' key0 = true) (v : HVal) :
    Respelled realCm PipeClasses { name := n, value := v } { name := n', value := v } :=
  respelled_of_sameClass realCm real_sane h0 h h' v

/-- the compact forms the table has for the pipeline's keys, in the letters of the wire -/
theorem real_compacts :
    getCompact realCm viaName = some (str "v") ∧ getCompact realCm fromName = some (str "f") ∧
    getCompact realCm toName = some (str "t") ∧ getCompact realCm callIdName = some (str "i") ∧
    getCompact realCm contentLengthName = some (str "l") := by
  have e : str "v" = [118] ∧ str "f" = [102] ∧ str "t" = [116] ∧ str "i" = [105] ∧ str "l" = [108] := by
    simp only [fixture]; decide +kernel
  have h := realCm_names.1
  rw [e.1, e.2.1, e.2.2.1, e.2.2.2.1, e.2.2.2.2]
  exact ⟨h.1, h.2.2.2.2.1, h.2.2.2.2.2.1, h.2.2.2.2.2.2.1, h.2.2.2.2.2.2.2⟩

/-- `Via` ↔ `v`/`V`, `From` ↔ `f`, `To` ↔ `t`, `Call-ID` ↔ `i`, `Content-Length` ↔ `l`, any letter case -/
theorem real_via_compact {n n' : Bytes} (hn : equalFold n (str "Via") = true) (hn' : equalFold n' (str "v") = true)
    (v : HVal) : Respelled realCm PipeClasses { name := n, value := v } { name := n', value := v } :=
  respelled_compact realCm real_sane pc_via real_compacts.1 hn hn' v

theorem real_from_compact {n n' : Bytes} (hn : equalFold n (str "From") = true) (hn' : equalFold n' (str "f") = true)
    (v : HVal) : Respelled realCm PipeClasses { name := n, value := v } { name := n', value := v } :=
  respelled_compact realCm real_sane pc_from real_compacts.2.1 hn hn' v

theorem real_to_compact {n n' : Bytes} (hn : equalFold n (str "To") = true) (hn' : equalFold n' (str "t") = true)
    (v : HVal) : Respelled realCm PipeClasses { name := n, value := v } { name := n', value := v } :=
  respelled_compact realCm real_sane pc_to real_compacts.2.2.1 hn hn' v

theorem real_callId_compact {n n' : Bytes} (hn : equalFold n (str "Call-ID") = true) (hn' : equalFold n' (str "i") = true)
    (v : HVal) : Respelled realCm PipeClasses { name := n, value := v } { name := n', value := v } :=
  respelled_compact realCm real_sane pc_callId real_compacts.2.2.2.1 hn hn' v

theorem real_contentLength_compact {n n' : Bytes} (hn : equalFold n (str "Content-Length") = true)
    (hn' : equalFold n' (str "l") = true) (v : HVal) :
    Respelled realCm PipeClasses { name := n, value := v } { name := n', value := v } :=
  respelled_compact realCm real_sane pc_contentLength real_compacts.2.2.2.2 hn hn' v

/-- non-vacuity: `Via` against `V`, `FROM` against `f`, `call-id` against `I`, `Content-Length` against `l` -/
example (v : HVal) : Respelled realCm PipeClasses { name := str "Via", value := v } { name := str "V", value := v } :=
  real_via_compact (by simp only [fixture]; decide +kernel) (by simp only [fixture]; decide +kernel) v
example (v : HVal) : Respelled realCm PipeClasses { name := str "v", value := v } { name := str "VIA", value := v } :=
  (real_via_compact (by simp only [fixture]; decide +kernel) (by simp only [fixture]; decide +kernel) v).symm
example (v : HVal) : Respelled realCm PipeClasses { name := str "FROM", value := v } { name := str "f", value := v } :=
  real_from_compact (by simp only [fixture]; decide +kernel) (by simp only [fixture]; decide +kernel) v
example (v : HVal) : Respelled realCm PipeClasses { name := str "to", value := v } { name := str "T", value := v } :=
  real_to_compact (by simp only [fixture]; decide +kernel) (by simp only [fixture]; decide +kernel) v
example (v : HVal) : Respelled realCm PipeClasses { name := str "call-id", value := v } { name := str "I", value := v } :=
  real_callId_compact (by simp only [fixture]; decide +kernel) (by simp only [fixture]; decide +kernel) v
example (v : HVal) :
    Respelled realCm PipeClasses { name := str "Content-Length", value := v } { name := str "l", value := v } :=
  real_contentLength_compact (by simp only [fixture]; decide +kernel) (by simp only [fixture]; decide +kernel) v
/-- a header the pipeline never looks at: `Contact` against `m` -/
example (v : HVal) : Respelled realCm PipeClasses { name := str "Contact", value := v } { name := str "m", value := v } :=
  have h : (∀ key ∈ pipeKeys, isSameHeader realCm (str "Contact") key = false) ∧
      ∀ key ∈ pipeKeys, isSameHeader realCm (str "m") key = false := by simp only [fixture]; decide +kernel
  respelled_of_noClass realCm h.1 h.2 v

/-! non-vacuity of every `*_respelled` theorem above (hypotheses `RespelledList` / `MsgRespelled`): the
example request of `Lemmas.Abs` (names `To v Route Record-Route VIA f Call-ID CSeq`) against the same
message spelled `t Via ROUTE record-route V From i cseq` -/

def exMsgSp : Message :=
  { exMsg with headers :=
      [ { name := str "t", value := .raw (str "<sip:b@h>;tag=t1") },
        { name := str "Via", value := .raw exTopVia },
        { name := str "ROUTE", value := .raw (str "<sip:p1;lr>, <sip:p2:5080;transport=tcp>") },
        { name := str "record-route", value := .raw (str "<sip:q;lr>") },
        { name := str "V", value := .raw (str "SIP/2.0/UDP c") },
        { name := str "From", value := .raw (str "<sip:a@h>;tag=f1") },
        { name := str "i", value := .raw (str "c1") },
        { name := str "cseq", value := .raw (str "7 INVITE") } ] }

attribute [fixture] exMsgSp

theorem exMsg_respelled : MsgRespelled realCm PipeClasses exMsg exMsgSp :=
  ⟨rfl, rfl, respelledList_of_check _ _ _ (by simp only [fixture]; decide +kernel)⟩

/-- the names really differ, and the getters really succeed on both (equal results by `getVia_respelled` …) -/
example : exMsg.headers.map (·.name) ≠ exMsgSp.headers.map (·.name) ∧
    (getVia realCm exMsg).isSome = true ∧ (getRoute realCm exMsgSp).isSome = true ∧
    (getDialog realCm exMsgSp).1.isSome = true ∧ (getClientTransaction realCm exMsgSp).1.isSome = true := by
  simp only [fixture]; decide +kernel

example := getVia_respelled realCm PipeClasses exMsg_respelled pc_via
example := getDialog_respelled realCm PipeClasses exMsg_respelled pc_callId pc_from pc_to
example := bytes_respelled realCm PipeClasses exMsg_respelled pc_contentLength
/-- the two serialisations are different byte strings (so `BytesRespelled` is not equality here) -/
example : exMsg.bytes realCm ≠ exMsgSp.bytes realCm := by simp only [fixture]; decide +kernel

/-- hypothesis of `real_isSameHeader_symm` -/
example : isSameHeader realCm (str "v") (str "Via") = true := by simp only [fixture]; decide +kernel

end Real

/-! #### why the table must be sane -/

section Insane

/-- a table in which `v` is the compact form of both Via and Expires -/
def clashCm : List (Bytes × Bytes) := buildCompactMap [(str "Via", str "v"), (str "Expires", str "v")]

attribute [fixture] clashCm

theorem clash_not_sane : ¬ SaneFor clashCm pipeKeys := by simp only [fixture]; decide +kernel

/-- `Via` → `v` is NOT a re-spelling for `clashCm`: the header `v` is also an Expires header -/
theorem clash_not_respelled (x : HVal) :
    ¬ Respelled clashCm PipeClasses { name := str "Via", value := x } { name := str "v", value := x } := by
  intro h
  have this : isSameHeader clashCm (str "Via") expiresName = isSameHeader clashCm (str "v") expiresName :=
    h.2 expiresName pc_expires
  revert this
  simp only [fixture]; decide +kernel

/-- the difference is observable under `clashCm`: `getExpires` reads the Via header re-spelled `v` -/
theorem clash_observable :
    let m : Message := { start := .status [] 200 [], headers := [{ name := str "Via", value := .raw (str "7") }], body := [] }
    let m' : Message := { start := .status [] 200 [], headers := [{ name := str "v", value := .raw (str "7") }], body := [] }
    getExpires clashCm m 0 = 0 ∧ getExpires clashCm m' 0 = 7 := by simp only [fixture]; decide +kernel

end Insane

/-! ### the asymmetry of `isSameHeader`

The compact form is looked up for the SECOND argument only. For an arbitrary map, and for a table in
which two names share a compact form, `isSameHeader a b` and `isSameHeader b a` differ; the code
always passes the wire name first and one of its own constants second, and all statements above are
about that usage. For the generated table the relation happens to be symmetric
(`real_isSameHeader_symm`): every entry has its mirror image. -/

section Asymmetry

/-- an arbitrary one-directional map -/
theorem isSameHeader_asymm_map :
    isSameHeader [(str "via", str "v")] (str "v") (str "Via") = true ∧
    isSameHeader [(str "via", str "v")] (str "Via") (str "v") = false := by simp only [fixture]; decide +kernel

/-- a table built by `buildCompactMap` in which the second `AddCompact` overwrote `v ↦ via` -/
theorem isSameHeader_asymm_table :
    isSameHeader clashCm (str "v") (str "Via") = true ∧
    isSameHeader clashCm (str "Via") (str "v") = false := by simp only [fixture]; decide +kernel

theorem real_mirror : ∀ e ∈ realCm, toLower e.1 = e.1 ∧ toLower e.2 = e.2 ∧ getCompact realCm e.2 = some e.1 := by
  simp only [fixture]; decide +kernel

theorem real_isSameHeader_symm (a b : Bytes) (h : isSameHeader realCm a b = true) :
    isSameHeader realCm b a = true := by
  unfold isSameHeader at h
  simp only [Bool.or_eq_true] at h
  rcases h with h | h
  · have : equalFold b a = true := by
      unfold equalFold at h ⊢
      simp only [beq_iff_eq] at h ⊢
      exact h.symm
    simp [isSameHeader, this]
  · cases hc : getCompact realCm b with
    | none => rw [hc] at h; cases h
    | some c =>
      rw [hc] at h
      simp only [equalFold, beq_iff_eq] at h
      unfold getCompact at hc
      cases hf : realCm.find? (fun e => e.1 == toLower b) with
      | none => rw [hf] at hc; cases hc
      | some e =>
        rw [hf] at hc
        simp only [Option.map_some, Option.some.injEq] at hc
        have hmem := List.mem_of_find?_eq_some hf
        have hkey := List.find?_some hf
        simp only [beq_iff_eq] at hkey
        obtain ⟨h1, h2, h3⟩ := real_mirror e hmem
        have ha : toLower a = toLower e.2 := by rw [h, ← hc]
        have hga : getCompact realCm a = some e.1 := by
          rw [← h3]; unfold getCompact; rw [ha]
        unfold isSameHeader
        rw [hga]
        simp only [equalFold, Bool.or_eq_true, beq_iff_eq]
        right
        rw [h1, hkey]

end Asymmetry

end Lemmas
