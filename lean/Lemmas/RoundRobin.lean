/-
Lemmas.RoundRobin — facts about `Side.RR` and about lists that C05 and C19 share (namespace `Lemmas.RR`:
the closed form of a dispatch, a list that tracks another as a set, a window of a rotation), and the
coupling between the model and the C05 observer `Spec.RRObs` with its one-step lemmas (namespace
`Lemmas.RRObs`).
-/
import Side.RoundRobin
import Spec.Side
open GoStd Side.RR
set_option autoImplicit false

namespace Lemmas.RR

theorem dispatch_nil (s : St) (h : s.backends = []) : dispatch s = (s, none) := by
  simp [dispatch, nextIndex, h]

theorem dispatch_eq (s : St) (h : s.backends ≠ []) :
    dispatch s = ({ s with index := (s.index + 1) % s.backends.length },
                  s.backends[(s.index + 1) % s.backends.length]?) := by
  have hn : s.backends.length ≠ 0 := by simpa [List.length_eq_zero_iff] using h
  simp [dispatch, nextIndex, getBackend, hn]

variable {α : Type}

/-- `m` is a duplicate-free list of exactly the elements of `l` (the key set of a map beside the list
it indexes: `backendMap` beside `backends`, the proxy's address index beside the rotation) -/
abbrev SameMembers (l m : List α) : Prop := m.Nodup ∧ ∀ a, a ∈ m ↔ a ∈ l

theorem nodup_snoc {l : List α} {a : α} (h : l.Nodup) (ha : a ∉ l) : (l ++ [a]).Nodup :=
  (List.perm_append_singleton a l).nodup_iff.mpr (List.nodup_cons.mpr ⟨ha, h⟩)

theorem SameMembers.add [BEq α] [LawfulBEq α] {l m : List α} {a : α} (h : SameMembers l m) (ha : a ∉ l) :
    SameMembers (l ++ [a]) (if m.contains a then m else m ++ [a]) := by
  have ham : a ∉ m := fun hm => ha ((h.2 a).mp hm)
  rw [if_neg (by simpa using ham)]
  exact ⟨nodup_snoc h.1 ham, fun x => by simp [h.2 x]⟩

theorem SameMembers.erase [BEq α] [LawfulBEq α] {l m : List α} (a : α) (h : SameMembers l m) (hl : l.Nodup) : SameMembers (l.erase a) (m.erase a) :=
  ⟨h.1.erase a, fun x => by rw [h.1.mem_erase_iff, hl.mem_erase_iff, h.2 x]⟩

theorem mod_shift_ne (i m k : Nat) (h0 : 0 < m) (hk : m < k) : (i + m) % k ≠ i % k := by
  intro h
  have h1 := Nat.sub_mod_eq_zero_of_mod_eq h
  rw [Nat.add_sub_cancel_left, Nat.mod_eq_of_lt hk] at h1
  omega

/-- positions less than a full turn apart in a duplicate-free list hold different elements -/
theorem rotate_ne {b : List α} (hnd : b.Nodup) (i m : Nat) (h0 : 0 < m) (hm : m < b.length) :
    b[(i + m) % b.length]? ≠ b[i % b.length]? := by
  have hk : 0 < b.length := Nat.zero_lt_of_lt hm
  rw [List.getElem?_eq_getElem (Nat.mod_lt _ hk), List.getElem?_eq_getElem (Nat.mod_lt _ hk)]
  exact fun he => mod_shift_ne i m _ h0 hm ((List.getElem_inj hnd).mp (Option.some.inj he))

theorem cyclic_window (b : List α) (c : Nat) :
    (List.range b.length).map (fun j => b[(c + j) % b.length]?) =
      (b.drop (c % b.length) ++ b.take (c % b.length)).map some := by
  rcases Nat.eq_zero_or_pos b.length with h0 | hk
  · simp [List.length_eq_zero_iff.mp h0]
  have hr : c % b.length < b.length := Nat.mod_lt _ hk
  apply List.ext_getElem
  · simp only [List.length_map, List.length_range, List.length_append, List.length_drop, List.length_take]
    rw [Nat.min_eq_left (Nat.le_of_lt hr), Nat.sub_add_cancel (Nat.le_of_lt hr)]
  · intro j h1 _
    simp only [List.length_map, List.length_range] at h1
    -- no wrap-around while `c % b.length + j` stays below `b.length`, one after that
    have key : (c + j) % b.length =
        if b.length ≤ c % b.length + j then c % b.length + j - b.length else c % b.length + j := by
      rw [Nat.add_mod_eq_ite, Nat.mod_eq_of_lt h1]
    simp only [List.getElem_map, List.getElem_range,
      List.getElem_append, List.length_drop, List.getElem_drop, List.getElem_take, key,
      Nat.lt_sub_iff_add_lt', Nat.sub_sub_right j (Nat.le_of_lt hr), Nat.add_comm j]
    split
    · next h => rw [dif_neg (Nat.not_lt.mpr h)]; exact List.getElem?_eq_getElem _
    · next h => rw [dif_pos (Nat.lt_of_not_le h)]; exact List.getElem?_eq_getElem _

theorem cyclic_window_perm (b : List α) (c : Nat) :
    (((List.range b.length).map (fun j => b[(c + j) % b.length]?)).filterMap id).Perm b := by
  rw [cyclic_window, List.filterMap_map]
  simp only [Function.comp_def, id, List.filterMap_some]
  exact List.perm_append_comm.trans (by rw [List.take_append_drop])

end Lemmas.RR

namespace Lemmas.RRObs

/-- One history entry: the operation and, for a dispatch, the observed target (`none` = drop).
The second component is ignored for `add`/`remove` (exactly what the driver's `specSide` does). -/
def obsStep (o : Spec.RRObs) : Op × Option Bytes → Spec.RRObs × List String
  | (.add a, _) => (o.add a, [])
  | (.remove a, _) => (o.remove a, [])
  | (.dispatch, t) => o.dispatch t

def observeSt : Spec.RRObs → List (Op × Option Bytes) → Spec.RRObs × List String
  | o, [] => (o, [])
  | o, x :: xs =>
    let (o1, e) := obsStep o x
    let (o2, es) := observeSt o1 xs
    (o2, e ++ es)

def observe (o : Spec.RRObs) (h : List (Op × Option Bytes)) : List String := (observeSt o h).2

@[simp] theorem observe_nil (o : Spec.RRObs) : observe o [] = [] := rfl

@[simp] theorem observe_cons (o : Spec.RRObs) (x : Op × Option Bytes) (xs : List (Op × Option Bytes)) :
    observe o (x :: xs) = (obsStep o x).2 ++ observe (obsStep o x).1 xs := rfl

theorem observe_append (o : Spec.RRObs) (xs ys : List (Op × Option Bytes)) :
    observe o (xs ++ ys) = observe o xs ++ observe (observeSt o xs).1 ys := by
  induction xs generalizing o with
  | nil => simp [observeSt]
  | cons x xs ih =>
    simp only [List.cons_append, observe_cons, ih, List.append_assoc]
    rfl

theorem mod_succ_step (p j i k : Nat) (h : (p + j) % k = i % k) : (p + (j + 1)) % k = ((i + 1) % k) % k := by
  rw [Nat.mod_mod, ← Nat.add_assoc, Nat.add_mod (p + j) 1 k, h, ← Nat.add_mod]

/-- The observer has the model's backend list, and its `recent` list (newest first) walks the
rotation BACKWARDS from the cursor: `recent[j]` is the backend `j` positions before the cursor,
written without subtraction as "its position `p` satisfies `p + j ≡ index (mod k)`". -/
structure Coupled (s : St) (o : Spec.RRObs) : Prop where
  members : o.members = s.backends
  recent : ∀ (j : Nat) (h : j < o.recent.length), ∃ p, s.backends[p]? = some o.recent[j] ∧
      (p + j) % s.backends.length = s.index % s.backends.length

theorem coupled_fresh (s : St) : Coupled s { members := s.backends, recent := [] } :=
  ⟨rfl, fun _ hj => nomatch hj⟩

theorem add_step (s : St) (o : Spec.RRObs) (a : Addr) (h : Coupled s o) : Coupled (add s a) (o.add a) :=
  ⟨congrArg (· ++ [a]) h.members, fun _ hj => nomatch hj⟩

theorem remove_step (s : St) (o : Spec.RRObs) (a : Addr) (hk : ∀ x, x ∈ s.keys ↔ x ∈ s.backends)
    (h : Coupled s o) : Coupled (remove s a).1 (o.remove a) := by
  -- the model asks its map, the observer its list: the same answer
  have hc : s.keys.contains a = o.members.contains a := by
    rw [h.members, Bool.eq_iff_iff, List.contains_iff_mem, List.contains_iff_mem]; exact hk a
  unfold Side.RR.remove Spec.RRObs.remove
  rw [hc]
  split
  · exact ⟨by simp [h.members], fun j hj => nomatch hj⟩
  · exact h

theorem dispatch_step (s : St) (o : Spec.RRObs) (hnd : s.backends.Nodup) (h : Coupled s o) :
    (o.dispatch (dispatch s).2).2 = [] ∧ Coupled (dispatch s).1 (o.dispatch (dispatch s).2).1 := by
  by_cases hb : s.backends = []
  · have hd := Lemmas.RR.dispatch_nil s hb
    have hm : o.members = [] := by rw [h.members, hb]
    rw [hd]
    simp only [Spec.RRObs.dispatch, hm, List.isEmpty_nil, ↓reduceIte, true_and]
    exact h
  · have hk : 0 < s.backends.length := List.length_pos_iff.mpr hb
    have hlt : (s.index + 1) % s.backends.length < s.backends.length := Nat.mod_lt _ hk
    rw [Lemmas.RR.dispatch_eq s hb, List.getElem?_eq_getElem hlt]
    simp only [Spec.RRObs.dispatch]
    refine ⟨?_, ?_, ?_⟩
    · have hmem : s.backends[(s.index + 1) % s.backends.length] ∈ o.members := by
        rw [h.members]; simp
      have hwin : s.backends[(s.index + 1) % s.backends.length] ∉ o.recent.take (o.members.length - 1) := by
        rw [h.members]
        intro hc'
        obtain ⟨j, hj, hje⟩ := List.mem_take_iff_getElem.mp hc'
        obtain ⟨p, hp1, hp2⟩ := h.recent j (Nat.lt_min.mp hj).2
        -- `recent[j]` sits `j + 1` positions before the new target: the same element only after a full turn
        refine Lemmas.RR.rotate_ne hnd p (j + 1) (Nat.succ_pos j) (Nat.lt_sub_iff_add_lt.mp (Nat.lt_min.mp hj).1) ?_
        rw [mod_succ_step p j s.index _ hp2, Nat.mod_mod, Nat.mod_eq_of_lt (List.getElem?_eq_some_iff.mp hp1).1,
          hp1, hje, List.getElem?_eq_getElem hlt]
      simp [hmem, hwin]
    · exact h.members
    · intro j hj
      cases j with
      | zero =>
        refine ⟨(s.index + 1) % s.backends.length, ?_, ?_⟩
        · simp [List.getElem?_eq_getElem hlt]
        · simp
      | succ j =>
        have hj' : j < o.recent.length := by simpa using hj
        obtain ⟨p, hp1, hp2⟩ := h.recent j hj'
        refine ⟨p, ?_, ?_⟩
        · simpa using hp1
        · exact mod_succ_step p j s.index s.backends.length hp2

theorem reports_nonmember (o : Spec.RRObs) (a : Bytes) (h : a ∉ o.members) :
    "target-not-member" ∈ (o.dispatch (some a)).2 := by
  simp [Spec.RRObs.dispatch, h]

theorem reports_drop (o : Spec.RRObs) (h : o.members ≠ []) :
    (o.dispatch none).2 = ["dropped-with-backends"] := by
  simp [Spec.RRObs.dispatch, h]

theorem reports_repeat (o : Spec.RRObs) (a : Bytes) (h : a ∈ o.recent.take (o.members.length - 1)) :
    "window-repeats-target" ∈ (o.dispatch (some a)).2 := by
  simp [Spec.RRObs.dispatch, h]

example : observe {} [(.add [97], none), (.add [98], none), (.add [99], none), (.dispatch, some [100])]
    = ["target-not-member"] := by decide +kernel
example : observe {} [(.add [97], none), (.add [98], none), (.add [99], none), (.dispatch, none)]
    = ["dropped-with-backends"] := by decide +kernel
example : observe {} [(.add [97], none), (.add [98], none), (.add [99], none),
    (.dispatch, some [97]), (.dispatch, some [97])] = ["window-repeats-target"] := by decide +kernel
/-- a, b, a over three members: also reported (the window is the last k-1 = 2 targets) -/
example : observe {} [(.add [97], none), (.add [98], none), (.add [99], none),
    (.dispatch, some [97]), (.dispatch, some [98]), (.dispatch, some [97])] = ["window-repeats-target"] := by decide +kernel
/-- a send with no member at all is reported as a non-member target -/
example : observe {} [(.dispatch, some [97])] = ["target-not-member"] := by decide +kernel
/-- and a correct rotation passes, including across a removal and a removal of a stranger -/
example : observe {} [(.add [97], none), (.add [98], none), (.add [99], none),
    (.dispatch, some [98]), (.dispatch, some [99]), (.dispatch, some [97]), (.dispatch, some [98]),
    (.remove [100], none), (.dispatch, some [99]),
    (.remove [98], none), (.dispatch, some [97]), (.dispatch, some [99]), (.dispatch, some [97]),
    (.remove [97], none), (.remove [99], none), (.dispatch, none)] = [] := by decide +kernel

end Lemmas.RRObs
