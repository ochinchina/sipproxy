import Sip.Message
import Generated.Tables
import Lemmas.Str

/-! The header-name constants of `Sip.Message` and the generated tables as fixtures. -/

attribute [fixture] Sip.viaName Sip.routeName Sip.recordRouteName Sip.fromName Sip.toName Sip.cseqName Sip.callIdName
  Sip.contentLengthName Sip.maxForwardsName Sip.expiresName Sip.subscriptionStateName
  Generated.compactTable Generated.supportedProtocols Generated.finalClasses
