/-
Lemmas.PipeExamples — what the example events of `Lemmas.Pipe` do, evaluated once each, and the
non-vacuity of the hypotheses of `Lemmas.Pipe` on them.
-/
import Lemmas.Pipe
open GoStd Sip Proxy

namespace Lemmas

/-- an output list is one UDP packet to `ip`:`port` as soon as a Boolean test of its shape and
destination says so; the payload is left out of the test (it is long) -/
theorem exists_udp {l : List Out} {ip : Bytes} {port : Int}
    (h : (match l with
      | [.udp ip' port' _] => ip' == ip && port' == port
      | _ => false) = true) : ∃ d, l = [.udp ip port d] := by
  split at h
  · rename_i ip' port' d
    simp only [Bool.and_eq_true, beq_iff_eq] at h
    exact ⟨d, by rw [h.1, h.2]⟩
  · cases h

/-- the example request is relayed over UDP to the resolved next hop `p1` -/
theorem step_exMsg : ∃ d, (step exCfg exSt (exEv exMsg)).2 = [.udp (str "10.0.0.9") 5060 d] :=
  exists_udp (by simp only [fixture]; decide +kernel)

/-- the same request without its Route header is handed to the backend -/
theorem step_exMsgNoRoute : ∃ d, (step exCfg exSt (exEv exMsgNoRoute)).2 = [.backend (str "10.0.0.5:5060") d] := by
  have h : (match (step exCfg exSt (exEv exMsgNoRoute)).2 with
      | [.backend a _] => a == str "10.0.0.5:5060"
      | _ => false) = true := by simp only [fixture]; decide +kernel
  split at h
  · rename_i a d he
    simp only [beq_iff_eq] at h
    exact ⟨d, by rw [he, h]⟩
  · cases h

/-- the example response goes back over UDP to `received`:`rport` of the entry beneath the proxy's own -/
theorem step_exResp : ∃ d, (step exCfg exSt (exEv exResp)).2 = [.udp (str "10.0.0.7") 4444 d] :=
  exists_udp (by simp only [fixture]; decide +kernel)

/-- the getters of the dialog / transaction layer succeed on the example request -/
example : (getFrom realCm exMsg).isSome = true ∧ (getTo realCm exMsg).isSome = true ∧
    (getCSeq realCm exMsg).isSome = true ∧ (getDialog realCm exMsg).1.isSome = true ∧
    (getClientTransaction realCm exMsg).1 = some (str "INVITE z1") ∧
    (getMethod realCm exResp).map Prod.fst = some (str "INVITE") := by
  simp only [fixture]; decide +kernel

/-- `step_request_out`, `step_request`, `handleMessage_request`: a request event that is relayed, one
that goes to the backend -/
example : ClassesOK exCfg.cm ∧ isRequest (exEv exMsg).msg = true ∧
    (step exCfg exSt (exEv exMsg)).2.map Out.isBackend = [false] ∧
    (step exCfg exSt (exEv exMsgNoRoute)).2.map Out.isBackend = [true] := by
  obtain ⟨d, h⟩ := step_exMsg
  obtain ⟨d', h'⟩ := step_exMsgNoRoute
  exact ⟨real_classesOK, rfl, by rw [h]; rfl, by rw [h']; rfl⟩

/-- `handleRawMessage_response`, `viaFrame_step_response`, `handleMessage_response`: a response event
that is relayed -/
example : isRequest (exEv exResp).msg = false ∧ (step exCfg exSt (exEv exResp)).2.length = 1 := by
  obtain ⟨d, h⟩ := step_exResp
  exact ⟨rfl, by rw [h]; rfl⟩

/-- a request over an inbound TCP connection exercises stage 3 (`rawConn`) -/
example : (rawConn exCfg exSt { exEv exMsg with tcpConn := some 3 } exMsg).1.length = 2 := by
  simp only [fixture]; decide +kernel

/-- stage 1 decodes the Via headers of a request from a non-backend peer -/
example : (rawLearn exCfg exSt (exEv exMsg)).2 ≠ exMsg := by
  simp only [fixture]; decide +kernel

end Lemmas
