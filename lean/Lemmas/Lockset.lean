/-
Lemmas.Lockset — helper lemmas for Side.Lockset: pointwise update, the held-set fold, the executable
stepper against the step relation, and soundness of the Boolean checkers used for concrete systems.
-/
import Side.Lockset
open Side.Lockset
set_option autoImplicit false

namespace Lemmas.Lockset

@[simp] theorem upd_same {β : Type} (f : Nat → β) (k : Nat) (v : β) : upd f k v k = v := by
  simp [upd]

theorem upd_other {β : Type} (f : Nat → β) {k i : Nat} (v : β) (h : i ≠ k) : upd f k v i = f i := by
  simp [upd, h]

theorem progOf_eq_nil_or_mem (sys : Sys) (t : ThreadId) : progOf sys t = [] ∨ progOf sys t ∈ sys := by
  unfold progOf
  cases h : sys[t]? with
  | none => left; rfl
  | some P => right; simpa using List.mem_of_getElem? h

theorem progOf_of_length_le {sys : Sys} {t : ThreadId} (h : sys.length ≤ t) : progOf sys t = [] := by
  simp [progOf, List.getElem?_eq_none h]

theorem progOf_of_lt {sys : Sys} {t : ThreadId} (h : t < sys.length) : progOf sys t = sys[t] := by
  simp [progOf, List.getElem?_eq_getElem h]

theorem lt_length_of_progOf_ne_nil {sys : Sys} {t : ThreadId} (h : progOf sys t ≠ []) : t < sys.length := by
  apply Nat.lt_of_not_le
  intro hle
  exact h (progOf_of_length_le hle)

theorem lt_length_of_getElem? {sys : Sys} {t : ThreadId} {pc : Nat} {a : Action}
    (h : (progOf sys t)[pc]? = some a) : t < sys.length := by
  apply lt_length_of_progOf_ne_nil
  intro hnil
  simp [hnil] at h

@[simp] theorem held_zero (P : Prog) : held P 0 = [] := by simp [held]

theorem held_succ {P : Prog} {pc : Nat} {a : Action} (h : P[pc]? = some a) :
    held P (pc + 1) = stepHeld (held P pc) a := by
  simp [held, List.take_add_one, h, List.foldl_append]

theorem held_of_length_le {P : Prog} {pc : Nat} (h : P.length ≤ pc) : held P pc = held P P.length := by
  simp [held, List.take_of_length_le h]

@[simp] theorem held_nil (pc : Nat) : held [] pc = [] := by simp [held]

theorem mem_stepHeld_acq {H : List Lock} {l l' : Lock} : l ∈ stepHeld H (.acq l') ↔ l = l' ∨ l ∈ H := by
  simp [stepHeld]

theorem mem_stepHeld_rel {H : List Lock} {l l' : Lock} : l ∈ stepHeld H (.rel l') ↔ l ∈ H ∧ l ≠ l' := by
  simp [stepHeld]

@[simp] theorem stepHeld_access {H : List Lock} {x : Loc} {w : Bool} : stepHeld H (.access x w) = H := rfl

theorem stepFn_sound {sys : Sys} {σ σ' : State} {t : ThreadId} (h : stepFn sys σ t = some σ') :
    Step sys σ σ' := by
  unfold stepFn at h
  split at h
  · next l hn =>
    split at h
    · next hl =>
      cases h
      exact Step.acq t l hn (by simpa using hl)
    · cases h
  · next l hn =>
    split at h
    · next hl =>
      cases h
      obtain ⟨u, hu⟩ := Option.isSome_iff_exists.mp hl
      exact Step.rel t l u hn hu
    · cases h
  · next x w hn =>
    cases h
    exact Step.access t x w hn
  · cases h

theorem run_reachable {sys : Sys} (sched : List ThreadId) {σ σ' : State}
    (hσ : Reachable sys σ) (h : run sys σ sched = some σ') : Reachable sys σ' := by
  induction sched generalizing σ with
  | nil => simp [run] at h; exact h ▸ hσ
  | cons t ts ih =>
    obtain ⟨σ₁, hs, h⟩ := Option.bind_eq_some_iff.mp h
    exact ih (Reachable.step hσ (stepFn_sound hs)) h

/-- converse of `stepFn_sound` -/
theorem stepFn_complete {sys : Sys} {σ σ' : State} (h : Step sys σ σ') :
    ∃ t, stepFn sys σ t = some σ' := by
  cases h with
  | acq t l hn hl => exact ⟨t, by simp [stepFn, hn, hl]⟩
  | rel t l u hn hl => exact ⟨t, by simp [stepFn, hn, hl]⟩
  | access t x w hn => exact ⟨t, by simp [stepFn, hn]⟩

theorem mem_progRows {t : ThreadId} {P : Prog} {pc : Nat} {x : Loc} {w : Bool}
    (h : P[pc]? = some (.access x w)) : (⟨x, w, held P pc, t⟩ : AccessRow) ∈ progRows t P := by
  have hlt : pc < P.length := (List.getElem?_eq_some_iff.mp h).1
  unfold progRows
  rw [List.mem_filterMap]
  exact ⟨pc, List.mem_range.mpr hlt, by simp [h]⟩

theorem mem_sysRows {sys : Sys} {t : ThreadId} {pc : Nat} {x : Loc} {w : Bool}
    (h : (progOf sys t)[pc]? = some (.access x w)) :
    (⟨x, w, held (progOf sys t) pc, t⟩ : AccessRow) ∈ sysRows sys := by
  unfold sysRows
  rw [List.mem_flatMap]
  exact ⟨t, List.mem_range.mpr (lt_length_of_getElem? h), mem_progRows h⟩

theorem of_mem_sysRows {sys : Sys} {r : AccessRow} (h : r ∈ sysRows sys) :
    ∃ pc, (progOf sys r.thread)[pc]? = some (.access r.loc r.write) ∧
      r.locks = held (progOf sys r.thread) pc := by
  unfold sysRows at h
  rw [List.mem_flatMap] at h
  obtain ⟨t, _, h⟩ := h
  unfold progRows at h
  rw [List.mem_filterMap] at h
  obtain ⟨pc, _, h⟩ := h
  split at h
  · next x w ha =>
    cases h
    exact ⟨pc, ha, rfl⟩
  · cases h

theorem sysRows_describes (sys : Sys) : Describes (sysRows sys) sys := by
  intro t pc x w h
  exact ⟨⟨x, w, held (progOf sys t) pc, t⟩, mem_sysRows h, rfl, rfl, rfl, fun l hl => hl⟩

theorem describesRolesB_sound {role : ThreadId → Nat} {rows : List AccessRow} {sys : Sys}
    (h : describesRolesB role rows sys = true) : DescribesRoles role rows sys := by
  intro t pc x w ha
  unfold describesRolesB at h
  rw [List.all_eq_true] at h
  have := h _ (mem_sysRows ha)
  rw [List.any_eq_true] at this
  obtain ⟨r, hr, hok⟩ := this
  simp only [Bool.and_eq_true, beq_iff_eq, List.all_eq_true, List.contains_iff_mem] at hok
  obtain ⟨⟨⟨hx, hw⟩, ht⟩, hl⟩ := hok
  exact ⟨r, hr, hx, hw, ht, hl⟩

theorem describesB_sound {rows : List AccessRow} {sys : Sys}
    (h : describesB rows sys = true) : Describes rows sys :=
  describesRolesB_sound (role := fun t => t) h

theorem singleInstanceB_sound {multi : Nat → Bool} {role : ThreadId → Nat} {sys : Sys}
    (h : singleInstanceB multi role sys = true) : SingleInstance multi role sys := by
  intro t₁ t₂ h₁ h₂ hr hm
  unfold singleInstanceB at h
  rw [List.all_eq_true] at h
  have := h t₁ (List.mem_range.mpr h₁)
  rw [List.all_eq_true] at this
  have := this t₂ (List.mem_range.mpr h₂)
  have hm' : multi (role t₂) = false := hr ▸ hm
  simpa [hr, hm'] using this

/-- a check of every position of a program holds at every position that has an action -/
theorem all_range {P : Prog} {f : Nat → Bool} (h : (List.range P.length).all f = true) {pc : Nat} {a : Action}
    (ha : P[pc]? = some a) : f pc = true :=
  List.all_eq_true.mp h pc (List.mem_range.mpr (List.getElem?_eq_some_iff.mp ha).1)

theorem wellBracketedProgB_sound {P : Prog} (h : wellBracketedProgB P = true) : WellBracketedProg P := by
  intro pc l
  constructor <;> intro ha <;> simpa [ha] using all_range h ha

theorem wellBracketedB_sound {sys : Sys} (h : wellBracketedB sys = true) : WellBracketed sys := by
  intro P hP
  unfold wellBracketedB at h
  rw [List.all_eq_true] at h
  exact wellBracketedProgB_sound (h P hP)

theorem wellBracketedProg_nil : WellBracketedProg [] := by
  intro pc l; simp

theorem wellBracketed_progOf {sys : Sys} (h : WellBracketed sys) (t : ThreadId) :
    WellBracketedProg (progOf sys t) := by
  rcases progOf_eq_nil_or_mem sys t with hn | hm
  · rw [hn]; exact wellBracketedProg_nil
  · exact h _ hm

theorem lockOrderB_sound {sys : Sys} {rank : Lock → Nat} (h : lockOrderB sys rank = true) :
    LockOrder sys rank := by
  intro l₁ l₂ ⟨t, pc, ha, hl⟩
  rcases progOf_eq_nil_or_mem sys t with hn | hm
  · simp [hn] at ha
  · have := all_range (List.all_eq_true.mp h _ hm) ha
    simp only [ha, List.all_eq_true, decide_eq_true_eq] at this
    exact this l₁ hl

theorem balancedB_sound {sys : Sys} (h : balancedB sys = true) : Balanced sys := by
  intro P hP
  unfold balancedB at h
  rw [List.all_eq_true] at h
  simpa using h P hP

theorem balanced_progOf {sys : Sys} (h : Balanced sys) (t : ThreadId) :
    held (progOf sys t) (progOf sys t).length = [] := by
  rcases progOf_eq_nil_or_mem sys t with hn | hm
  · rw [hn]; simp
  · exact h _ hm

theorem dataRaceB_sound {sys : Sys} {σ : State} (h : dataRaceB sys σ = true) : DataRace sys σ := by
  unfold dataRaceB at h
  rw [List.any_eq_true] at h
  obtain ⟨t₁, _, h⟩ := h
  rw [List.any_eq_true] at h
  obtain ⟨t₂, _, h⟩ := h
  rw [Bool.and_eq_true] at h
  obtain ⟨hne, h⟩ := h
  split at h
  · next x w₁ y w₂ h₁ h₂ =>
    rw [Bool.and_eq_true] at h
    have hxy : x = y := by simpa using h.1
    subst hxy
    exact ⟨t₁, t₂, x, w₁, w₂, by simpa using hne, h₁, h₂, h.2⟩
  · cases h

end Lemmas.Lockset
