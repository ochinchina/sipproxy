/-
Lemmas.Stages — proof-side names for the `let`s of `handleRawMessage`, `handleDialog` and the
response branch of `handleMessage`, with the equations that say so (by unfolding); closed forms of the
pinning stages (`dialogPin_eq`, `respPin_eq`, by case analysis) and of the request branch of
`handleMessage`; what an output carries (`Out.data`, `Out.isBackend`).
-/
import Proxy.Model
import Lemmas.Relay
open GoStd Sip Proxy

namespace Lemmas

section Raw
variable (cfg : Cfg)

/-- stage 1: learn routes (decodes every Via header of a request from a non-backend peer) -/
def rawLearn (st : St) (ev : RawEv) : List (Bytes × Listener) × Message :=
  if isRequest ev.msg && !st.backends.contains ev.peerAddr then
    let l1 := addRoute st.learned ev.peerAddr ev.frm
    let (hs, vias) := forEachViaHeaders cfg.cm ev.msg.headers
    (vias.foldl (fun l vp => addRoute l vp.host ev.frm) l1, { ev.msg with headers := hs })
  else (st.learned, ev.msg)

/-- stage 2: stamp received / rport -/
def rawStamp (ev : RawEv) (m1 : Message) : Message :=
  if isRequest ev.msg && ev.receivedSupport then setReceived cfg.cm m1 ev.peerAddr ev.peerPort else m1

/-- stage 3: remember the inbound TCP connection -/
def rawConn (st : St) (ev : RawEv) (m2 : Message) : List (Bytes × TransEntry) × Message :=
  match isRequest ev.msg, ev.tcpConn with
  | true, some c =>
    match getNextResponseHop cfg m2 with
    | (none, m') => (st.trans, m')
    | (some hop, m') =>
      match getClientTransaction cfg.cm m' with
      | (none, m'') => (st.trans, m'')
      | (some tid, m'') =>
        match getTransport cfg st.trans (str "tcp") (regHost cfg hop.host) hop.port tid with
        | none => (st.trans, m'')
        | some (tr, key, e) => (assocSet tr key { e with primary := some (.conn c) }, m'')
  | _, _ => (st.trans, m2)

/-- does the SIP URI designate the receiving listener? (port equal; host equal literally or after
resolution) -/
def designatesListener (frm : Listener) (u : SIPURI) : Bool :=
  u.getPort == frm.port &&
    (u.host == frm.addr ||
      (match getIp cfg u.host, getIp cfg frm.addr with
       | some a, some b => a == b
       | _, _ => false))

/-- stage 4: consume an own top Route entry -/
def rawOwnRoute (ev : RawEv) (m3 : Message) : Message :=
  match getRoute cfg.cm m3 with
  | none => m3
  | some (r, m') =>
    match r with
    | [] => m'
    | rp :: _ =>
      match rp.nameAddr.addr with
      | .abs _ => m'
      | .sip u => if designatesListener cfg ev.frm u then (popRoute cfg.cm m').getD m' else m'

theorem handleRawMessage_eq (st : St) (ev : RawEv) :
    handleRawMessage cfg st ev =
      ({ st with learned := (rawLearn cfg st ev).1,
                 trans := (rawConn cfg st ev (rawStamp cfg ev (rawLearn cfg st ev).2)).1 },
       rawOwnRoute cfg ev (rawConn cfg st ev (rawStamp cfg ev (rawLearn cfg st ev).2)).2) := by
  unfold handleRawMessage rawOwnRoute rawConn rawStamp rawLearn designatesListener
  rfl

theorem handleRawMessage_msg (st : St) (ev : RawEv) :
    (handleRawMessage cfg st ev).2 =
      rawOwnRoute cfg ev (rawConn cfg st ev (rawStamp cfg ev (rawLearn cfg st ev).2)).2 := by
  rw [handleRawMessage_eq]

end Raw

section Parts
variable (cfg : Cfg)

/-- proof-side name for the first `let` of `handleDialog`: which backend answered -/
def dialogBackend (st : St) (addr : Bytes) (m : Message) : Option BackendRef × List PinEntry × Message :=
  if st.backends.contains addr then (some (.member addr), st.pins, m)
  else
    match getClientTransaction cfg.cm m with
    | (none, m') => (none, st.pins, m')
    | (some tid, m') =>
      (pinGet st.pins tid, if isFinalResponse cfg.finalClasses m' then pinDel st.pins tid else st.pins, m')

/-- … and for the rest: pin / unpin the dialog -/
def dialogPin (st : St) (backend : Option BackendRef) (pins1 : List PinEntry) (m1 : Message) : St × Message :=
  match backend with
  | none => ({ st with pins := pins1 }, m1)
  | some b =>
    match getMethod cfg.cm m1 with
    | none => ({ st with pins := pins1 }, m1)
    | some (method, m2) =>
      if method == str "INVITE" then
        match getDialog cfg.cm m2 with
        | (some d, m3) =>
          if d.isEmpty then ({ st with pins := pins1 }, m3)
          else ({ st with pins := pinAdd pins1 d b (getExpires cfg.cm m3 0) }, m3)
        | (none, m3) => ({ st with pins := pins1 }, m3)
      else if method == str "BYE" then
        match getDialog cfg.cm m2 with
        | (some d, m3) => if d.isEmpty then ({ st with pins := pins1 }, m3) else ({ st with pins := pinDel pins1 d }, m3)
        | (none, m3) => ({ st with pins := pins1 }, m3)
      else ({ st with pins := pins1 }, m2)

theorem handleDialog_eq (st : St) (a : Bytes) (p : Int) (m : Message) :
    handleDialog cfg st a p m =
      if !isResponse m then (st, m)
      else dialogPin cfg st (dialogBackend cfg st (joinHostPort a p) m).1 (dialogBackend cfg st (joinHostPort a p) m).2.1
        (dialogBackend cfg st (joinHostPort a p) m).2.2 := by
  unfold handleDialog dialogPin dialogBackend
  rfl

/-- what an INVITE (`invite`) or BYE answer from backend `b` does to the pins: the dialog, if the answer
names one, is pinned to `b` or unpinned -/
def dialogPins (ps : List PinEntry) (b : BackendRef) (invite : Bool) (d : Option Bytes) (e : Int) : List PinEntry :=
  match d with
  | some d => if d.isEmpty then ps else if invite then pinAdd ps d b e else pinDel ps d
  | none => ps

/-- `dialogPin` in closed form: nothing but decoding up to the method; for INVITE / BYE the dialog is
read and the pins follow `dialogPins` -/
theorem dialogPin_eq (st : St) (backend : Option BackendRef) (pins1 : List PinEntry) (m1 : Message) :
    dialogPin cfg st backend pins1 m1 =
      match backend, getMethod cfg.cm m1 with
      | some b, some (method, m2) =>
        if method == str "INVITE" || method == str "BYE" then
          ({ st with pins := dialogPins pins1 b (method == str "INVITE") (getDialog cfg.cm m2).1
                               (getExpires cfg.cm (getDialog cfg.cm m2).2 0) }, (getDialog cfg.cm m2).2)
        else ({ st with pins := pins1 }, m2)
      | _, _ => ({ st with pins := pins1 }, m1) := by
  unfold dialogPin dialogPins
  cases backend with
  | none => rfl
  | some b =>
    cases getMethod cfg.cm m1 with
    | none => rfl
    | some q =>
      obtain ⟨method, m2⟩ := q
      dsimp only
      rcases getDialog cfg.cm m2 with ⟨d, m3⟩
      cases method == str "INVITE" <;> cases method == str "BYE" <;> cases d <;>
        simp only [Bool.false_eq_true, ↓reduceIte, Bool.or_self, Bool.or_true, Bool.true_or] <;> split <;> rfl

end Parts

def _root_.Proxy.Out.data : Out → Bytes
  | .backend _ d => d
  | .udp _ _ d => d
  | .conn _ d => d
  | .tcp _ _ d => d

def _root_.Proxy.Out.isBackend : Out → Bool
  | .backend _ _ => true
  | _ => false

theorem outData_eq (o : Out) : outData o = o.data := by cases o <;> rfl

section Emit
variable (cfg : Cfg)

theorem entrySend_out (e : TransEntry) (d : Bytes) (o : Out) (ho : o ∈ entrySend e d) :
    o.data = d ∧ o.isBackend = false := by
  unfold entrySend at ho
  split at ho
  · simp only [List.mem_singleton] at ho; subst ho; exact ⟨rfl, rfl⟩
  · simp only [List.mem_singleton] at ho; subst ho; exact ⟨rfl, rfl⟩
  · split at ho
    · split at ho
      · simp only [List.mem_singleton] at ho; subst ho; exact ⟨rfl, rfl⟩
      · cases ho
    · cases ho

/-- `sendMessage` serialises its argument after decoding CSeq and Via in place -/
theorem sendMessage_mem (st : St) (h : Hop) (m : Message) (o : Out) (ho : o ∈ (sendMessage cfg st h m).2) :
    o.data = ((getClientTransaction cfg.cm m).2).bytes cfg.cm ∧ o.isBackend = false := by
  rw [sendMessage_out] at ho
  split at ho
  · cases ho
  · exact entrySend_out _ _ o ho

/-- `sendToBackend` serialises the message with the proxy's own entries for the first listener -/
theorem sendToBackend_mem (st : St) (m : Message) (br : Bytes) (o : Out) (ho : o ∈ (sendToBackend cfg st m br).2) :
    ∃ t0 a, cfg.transports0 = some t0 ∧
      o = .backend a ((insertSelf cfg (findBackendByDialog cfg st m).2.2 t0 br).bytes cfg.cm) := by
  cases ht : cfg.transports0 with
  | none => rw [sendToBackend_none cfg st m br ht] at ho; cases ho
  | some t0 =>
    rw [sendToBackend_eq cfg st m br t0 ht] at ho
    split at ho
    · cases ho
    · rename_i a _
      exact ⟨t0, a, rfl, List.mem_singleton.1 ho⟩

/-- The request branch of `handleMessage` in closed form: a hop found by Route or static route takes
the request (with the proxy's own entries when a listener was learned for the hop's host); without a
hop, a request for the service goes to a backend; anything else is dropped. -/
theorem handleMessage_request (st : St) (ev : RawEv) (m : Message) (hreq : isRequest m = true) :
    handleMessage cfg st ev m =
      match getNextRequestHop cfg m with
      | (some hop, m1) =>
        sendMessage cfg st hop
          (match assocGet st.learned hop.host with
           | some t => insertSelf cfg m1 t ev.branch
           | none => m1)
      | (none, m1) =>
        if isMyMessage cfg ev.frm m1 ev.rxMatch then sendToBackend cfg st m1 ev.branch else (st, []) := by
  unfold handleMessage
  rw [if_pos hreq]
  rcases getNextRequestHop cfg m with ⟨_ | hop, m1⟩ <;> rfl

end Emit

/-- `step` with its two tuple-lets projected away -/
theorem step_eq (cfg : Cfg) (st : St) (ev : RawEv) :
    step cfg st ev = handleMessage cfg
      (handleDialog cfg (handleRawMessage cfg st ev).1 ev.peerAddr ev.peerPort (handleRawMessage cfg st ev).2).1 ev
      (handleDialog cfg (handleRawMessage cfg st ev).1 ev.peerAddr ev.peerPort (handleRawMessage cfg st ev).2).2 := by
  unfold step
  rcases handleRawMessage cfg st ev with ⟨st1, m1⟩
  rfl

section Response
variable (cfg : Cfg)

/-- the address a SUBSCRIBE response's hop is looked up under among the backends -/
def hopAddr (hop : Option Hop) : Bytes :=
  match hop with
  | some h => h.host ++ [58] ++ itoa h.port
  | none => [58, 48]

/-- proof-side name for the SUBSCRIBE-pinning `let` of the response branch -/
def respPin (st : St) (hop : Option Hop) (m2 : Message) : St × Message :=
  match getMethod cfg.cm m2 with
  | some (method, m') =>
    if method == str "SUBSCRIBE" then
      let addr := hopAddr hop
      if st.backends.contains addr then
        match getDialog cfg.cm m' with
        | (some d, m'') => ({ st with pins := pinAdd st.pins d (.member addr) (getExpires cfg.cm m'' 0) }, m'')
        | (none, m'') => (st, m'')
      else (st, m')
    else (st, m')
  | none => (st, m2)

/-- `respPin` in closed form: a SUBSCRIBE response whose hop is a backend pins its dialog to it -/
theorem respPin_eq (st : St) (hop : Option Hop) (m : Message) :
    respPin cfg st hop m =
      match getMethod cfg.cm m with
      | some (method, m') =>
        if method == str "SUBSCRIBE" && st.backends.contains (hopAddr hop) then
          ((match (getDialog cfg.cm m').1 with
            | some d => { st with pins := pinAdd st.pins d (.member (hopAddr hop))
                                            (getExpires cfg.cm (getDialog cfg.cm m').2 0) }
            | none => st), (getDialog cfg.cm m').2)
        else (st, m')
      | none => (st, m) := by
  unfold respPin
  cases getMethod cfg.cm m with
  | none => rfl
  | some q =>
    obtain ⟨method, m'⟩ := q
    dsimp only
    rcases getDialog cfg.cm m' with ⟨d, m''⟩
    cases method == str "SUBSCRIBE"
    · rfl
    · simp only [↓reduceIte, Bool.true_and]
      split <;> cases d <;> rfl

theorem handleMessage_response (st : St) (ev : RawEv) (m : Message) (hresp : isRequest m = false) :
    handleMessage cfg st ev m =
      match (getNextResponseHop cfg ((popVia cfg.cm m).getD m)).1 with
      | none =>
        ((respPin cfg st none (getNextResponseHop cfg ((popVia cfg.cm m).getD m)).2).1, [])
      | some h =>
        sendMessage cfg (respPin cfg st (some h) (getNextResponseHop cfg ((popVia cfg.cm m).getD m)).2).1 h
          (respPin cfg st (some h) (getNextResponseHop cfg ((popVia cfg.cm m).getD m)).2).2 := by
  unfold handleMessage respPin
  simp only [hresp, Bool.false_eq_true, ↓reduceIte]
  rcases getNextResponseHop cfg ((popVia cfg.cm m).getD m) with ⟨hop, m2⟩
  cases hop <;> rfl

end Response

end Lemmas
