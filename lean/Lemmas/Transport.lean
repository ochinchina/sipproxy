/-
Lemmas.Transport — the transport table of Proxy.Model (transport.go ClientTransportMgr):
shape of the keys `getFullAddr` builds, and what `GetTransport` reads and writes.
-/
import Proxy.Model
import Lemmas.Keyed
import Lemmas.Str
open GoStd Sip Proxy

namespace Lemmas

/-! ### the association lists of Proxy.Model (`assocSet`, `assocGet`, `assocDel`): the Go maps of the transport table and the learned routes -/

section Assoc
variable {β : Type}

theorem assocGet_nil (k : Bytes) : assocGet ([] : List (Bytes × β)) k = none := rfl

theorem assocGet_assocSet (l : List (Bytes × β)) (k' : Bytes) (v : β) (k : Bytes) :
    assocGet (assocSet l k' v) k = if k' = k then some v else assocGet l k := by
  unfold assocSet assocGet
  rw [← List.isSome_find?]
  cases h : l.find? (fun e => e.1 == k') with
  | none =>
    by_cases hk : k' = k
    · subst hk; simp [List.find?_append, h]
    · simp [List.find?_append, hk]
  | some w =>
    simp only [Option.isSome_some, if_true]
    rw [Keyed.find?_replace Prod.fst l (k', v) k]
    by_cases hk : k' = k
    · subst hk; simp [h]
    · simp [hk]

theorem assocGet_assocSet_same (l : List (Bytes × β)) (k : Bytes) (v : β) :
    assocGet (assocSet l k v) k = some v := by
  simp [assocGet_assocSet]

theorem assocGet_assocSet_ne (l : List (Bytes × β)) (k' : Bytes) (v : β) (k : Bytes) (hne : k' ≠ k) :
    assocGet (assocSet l k' v) k = assocGet l k := by
  simp [assocGet_assocSet, hne]

theorem assocGet_assocDel (l : List (Bytes × β)) (k' k : Bytes) :
    assocGet (assocDel l k') k = if k' = k then none else assocGet l k := by
  unfold assocGet assocDel
  rw [Keyed.find?_erase Prod.fst]
  split <;> rfl

theorem assocGet_assocDel_same (l : List (Bytes × β)) (k : Bytes) : assocGet (assocDel l k) k = none := by
  simp [assocGet_assocDel]

theorem assocGet_assocDel_ne (l : List (Bytes × β)) (k' k : Bytes) (hne : k' ≠ k) :
    assocGet (assocDel l k') k = assocGet l k := by
  simp [assocGet_assocDel, hne]

end Assoc

theorem tcp_ne_udp : (str "tcp" == str "udp") = false := by rw [str_tcp, str_udp]; decide

theorem fullAddr_tcp_keyed (h : Bytes) (p : Int) (tid : Bytes) (hne : tid ≠ []) :
    fullAddr (str "tcp") h p tid = str "tcp" ++ str "://" ++ joinHostPort h p ++ [45] ++ tid := by
  unfold fullAddr
  cases tid with
  | nil => exact absurd rfl hne
  | cons b bs => simp

theorem fullAddr_tcp_shared (h : Bytes) (p : Int) :
    fullAddr (str "tcp") h p [] = str "tcp" ++ str "://" ++ joinHostPort h p := by
  simp [fullAddr]

section
variable (cfg : Cfg) (tr tr' : List (Bytes × TransEntry)) (proto h : Bytes) (p : Int) (tid key : Bytes) (e : TransEntry)

/-- The three ways `GetTransport` answers: the entry exists and the table is left alone; or it is missing
and is written under the key, into the table as it was or (TCP, no shared client of the host:port yet)
into the table with the shared un-keyed entry added first. -/
theorem getTransport_cases (hg : getTransport cfg tr proto h p tid = some (tr', key, e)) :
    key = fullAddr (toLower proto) h p tid ∧
    ((tr' = tr ∧ assocGet tr key = some e) ∨
     (assocGet tr key = none ∧
       (tr' = assocSet tr key e ∨
        (assocGet tr (fullAddr (toLower proto) h p []) = none ∧
          ∃ se, tr' = assocSet (assocSet tr (fullAddr (toLower proto) h p []) se) key e)))) := by
  unfold getTransport at hg
  by_cases hs : (!cfg.supported.contains (toLower proto)) = true
  · simp only [hs, ↓reduceIte, reduceCtorEq] at hg
  simp only [hs, Bool.false_eq_true, ↓reduceIte] at hg
  cases hkey : assocGet tr (fullAddr (toLower proto) h p tid) with
  | some e' =>
    simp only [hkey, Option.some.injEq, Prod.mk.injEq] at hg
    obtain ⟨rfl, rfl, rfl⟩ := hg
    exact ⟨rfl, .inl ⟨rfl, hkey⟩⟩
  | none =>
    simp only [hkey] at hg
    by_cases hu : (toLower proto == str "udp") = true
    · simp only [hu, ↓reduceIte] at hg
      split at hg
      · simp only [Option.some.injEq, Prod.mk.injEq] at hg
        obtain ⟨rfl, rfl, rfl⟩ := hg
        exact ⟨rfl, .inr ⟨hkey, .inl rfl⟩⟩
      · cases hg
    · simp only [hu, Bool.false_eq_true, ↓reduceIte] at hg
      split at hg
      · -- tcp: is there a shared client of the host:port already?
        cases hsh : assocGet tr (fullAddr (toLower proto) h p []) <;>
          simp only [hsh, Option.some.injEq, Prod.mk.injEq] at hg <;> obtain ⟨rfl, rfl, rfl⟩ := hg
        · exact ⟨rfl, .inr ⟨hkey, .inr ⟨rfl, _, rfl⟩⟩⟩
        · exact ⟨rfl, .inr ⟨hkey, .inl rfl⟩⟩
      · cases hg

theorem getTransport_key (hg : getTransport cfg tr proto h p tid = some (tr', key, e)) :
    key = fullAddr (toLower proto) h p tid :=
  (getTransport_cases cfg tr tr' proto h p tid key e hg).1

theorem getTransport_hit (hs : cfg.supported.contains (toLower proto) = true)
    (hget : assocGet tr (fullAddr (toLower proto) h p tid) = some e) :
    getTransport cfg tr proto h p tid = some (tr, fullAddr (toLower proto) h p tid, e) := by
  unfold getTransport
  simp only [hs, Bool.not_true, Bool.false_eq_true, ↓reduceIte, hget]

theorem getTransport_stored (hg : getTransport cfg tr proto h p tid = some (tr', key, e)) :
    assocGet tr' key = some e := by
  obtain ⟨-, ⟨rfl, hit⟩ | ⟨-, rfl | ⟨-, se, rfl⟩⟩⟩ := getTransport_cases cfg tr tr' proto h p tid key e hg
  · exact hit
  · exact assocGet_assocSet_same _ _ _
  · exact assocGet_assocSet_same _ _ _

/-- An entry that exists survives every `GetTransport` unchanged: a call with the same key finds it
and leaves the table alone; a call with another key writes only that other key and, when there is
none yet, the shared un-keyed entry of its host:port (which is therefore not the existing one). -/
theorem getTransport_preserves (k : Bytes) (e₀ : TransEntry) (hk : assocGet tr k = some e₀)
    (hg : getTransport cfg tr proto h p tid = some (tr', key, e)) :
    assocGet tr' k = some e₀ := by
  -- a key that is written was missing, so it is not `k`
  have ne_of_none : ∀ k', assocGet tr k' = none → k' ≠ k := fun k' hn e => by rw [e, hk] at hn; cases hn
  obtain ⟨-, ⟨rfl, -⟩ | ⟨hmiss, rfl | ⟨hnone, se, rfl⟩⟩⟩ := getTransport_cases cfg tr tr' proto h p tid key e hg
  · exact hk
  · rwa [assocGet_assocSet_ne _ _ _ _ (ne_of_none _ hmiss)]
  · rwa [assocGet_assocSet_ne _ _ _ _ (ne_of_none _ hmiss), assocGet_assocSet_ne _ _ _ _ (ne_of_none _ hnone)]

theorem getTransport_frame (k : Bytes)
    (hg : getTransport cfg tr proto h p tid = some (tr', key, e))
    (hne : k ≠ key) (hns : k ≠ fullAddr (toLower proto) h p []) :
    assocGet tr' k = assocGet tr k := by
  obtain ⟨-, ⟨rfl, -⟩ | ⟨-, rfl | ⟨-, se, rfl⟩⟩⟩ := getTransport_cases cfg tr tr' proto h p tid key e hg
  · rfl
  · rw [assocGet_assocSet_ne _ _ _ _ (Ne.symm hne)]
  · rw [assocGet_assocSet_ne _ _ _ _ (Ne.symm hne), assocGet_assocSet_ne _ _ _ _ (Ne.symm hns)]

/-- a supported TCP lookup always answers, and on a miss with an entry that has no primary yet -/
theorem getTransport_tcp_some (hs : cfg.supported.contains (str "tcp") = true) :
    ∃ tr' e, getTransport cfg tr (str "tcp") h p tid = some (tr', fullAddr (str "tcp") h p tid, e) ∧
      (assocGet tr (fullAddr (str "tcp") h p tid) = none → e.primary = none) := by
  unfold getTransport
  simp only [toLower_tcp, hs, Bool.not_true, Bool.false_eq_true, ↓reduceIte, tcp_ne_udp, beq_self_eq_true]
  split
  · next hit => exact ⟨_, _, rfl, fun miss => by rw [hit] at miss; cases miss⟩
  · exact ⟨_, _, rfl, fun _ => rfl⟩

end

/-- the request as `handleRawMessage` sees it when it registers the connection: Via headers decoded
(route learning) and `received`/`rport` stamped -/
def stamped (cfg : Cfg) (st : St) (ev : RawEv) : Message :=
  let m1 : Message :=
    if isRequest ev.msg && !st.backends.contains ev.peerAddr then
      { ev.msg with headers := (forEachViaHeaders cfg.cm ev.msg.headers).1 }
    else ev.msg
  if isRequest ev.msg && ev.receivedSupport then setReceived cfg.cm m1 ev.peerAddr ev.peerPort else m1

/-- the registration step of `handleRawMessage` on the table alone -/
def registerStep (cfg : Cfg) (tr : List (Bytes × TransEntry)) (req : Bool) (conn : Option Nat) (m2 : Message) : List (Bytes × TransEntry) :=
  match req, conn with
  | true, some c =>
    match getNextResponseHop cfg m2 with
    | (none, _) => tr
    | (some hop, m') =>
      match getClientTransaction cfg.cm m' with
      | (none, _) => tr
      | (some tid, _) =>
        match getTransport cfg tr (str "tcp") (regHost cfg hop.host) hop.port tid with
        | none => tr
        | some (tr', key, e) => assocSet tr' key { e with primary := some (.conn c) }
  | _, _ => tr

theorem handleRawMessage_trans (cfg : Cfg) (st : St) (ev : RawEv) :
    (handleRawMessage cfg st ev).1.trans = registerStep cfg st.trans (isRequest ev.msg) ev.tcpConn (stamped cfg st ev) := by
  unfold handleRawMessage registerStep stamped
  -- the message the response hop is read from is the second component of the route-learning step
  simp only [apply_ite Prod.snd]
  cases isRequest ev.msg <;> cases ev.tcpConn <;> try rfl
  simp only
  generalize getNextResponseHop cfg _ = r
  obtain ⟨_ | hop, m'⟩ := r
  · rfl
  · simp only
    generalize getClientTransaction cfg.cm m' = r2
    obtain ⟨_ | tid, m''⟩ := r2
    · rfl
    · simp only
      generalize getTransport cfg st.trans (str "tcp") _ hop.port tid = r3
      obtain _ | ⟨tr', key, e⟩ := r3 <;> rfl

end Lemmas
