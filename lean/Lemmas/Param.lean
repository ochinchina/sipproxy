/-
Lemmas.Param — laws of the key/value parameter lists (`getParam`, `hasParam`, `setParam`).
-/
import Sip.Codec
open GoStd Sip

namespace Lemmas

theorem getParam_nil (k : Bytes) : getParam [] k = none := rfl

theorem getParam_cons (p : KeyValue) (ps : List KeyValue) (k : Bytes) :
    getParam (p :: ps) k = if p.key == k then some p.value else getParam ps k := by
  simp only [getParam, List.find?_cons]
  cases p.key == k <;> rfl

theorem getParam_none (ps : List KeyValue) (name : Bytes) (h : ∀ q ∈ ps, q.key ≠ name) :
    getParam ps name = none := by
  rw [getParam, List.find?_eq_none.mpr fun q hq e => h q hq (eq_of_beq e)]

theorem getParam_append (a b : List KeyValue) (k : Bytes) :
    getParam (a ++ b) k = (getParam a k).or (getParam b k) := by
  simp only [getParam, List.find?_append]
  cases a.find? _ <;> rfl

theorem getParam_first (pre post : List KeyValue) (name v : Bytes) (h : ∀ q ∈ pre, q.key ≠ name) :
    getParam (pre ++ { key := name, value := v } :: post) name = some v := by
  simp [getParam_append, getParam_none pre name h, getParam_cons]

theorem hasParam_eq_isSome (ps : List KeyValue) (k : Bytes) : hasParam ps k = (getParam ps k).isSome := by
  unfold hasParam getParam
  rw [← List.isSome_find?]
  cases ps.find? _ <;> rfl

theorem hasParam_iff (ps : List KeyValue) (k : Bytes) : hasParam ps k = true ↔ getParam ps k ≠ none := by
  rw [hasParam_eq_isSome]
  cases getParam ps k <;> simp

theorem hasParam_false_iff (ps : List KeyValue) (k : Bytes) : hasParam ps k = false ↔ getParam ps k = none := by
  rw [hasParam_eq_isSome]
  cases getParam ps k <;> simp

theorem setParam_spec (ps : List KeyValue) (k v : Bytes) :
    (∃ pre p post, ps = pre ++ p :: post ∧ p.key = k ∧ (∀ q ∈ pre, q.key ≠ k) ∧
        setParam ps k v = pre ++ { key := k, value := v } :: post) ∨
    ((∀ q ∈ ps, q.key ≠ k) ∧ setParam ps k v = ps ++ [{ key := k, value := v }]) := by
  induction ps with
  | nil => right; simp [setParam]
  | cons p ps ih =>
    simp only [setParam]
    cases hp : p.key == k with
    | true =>
      have hk : p.key = k := by simpa using hp
      exact Or.inl ⟨[], p, ps, rfl, hk, by simp, by simp [hk]⟩
    | false =>
      have hk : p.key ≠ k := by simpa using hp
      rcases ih with ⟨pre, q, post, h1, h2, h3, h4⟩ | ⟨h1, h2⟩
      · exact Or.inl ⟨p :: pre, q, post, by simp [h1], h2, List.forall_mem_cons.mpr ⟨hk, h3⟩, by simp [h4]⟩
      · exact Or.inr ⟨List.forall_mem_cons.mpr ⟨hk, h1⟩, by simp [h2]⟩

theorem getParam_setParam_same (ps : List KeyValue) (k v : Bytes) : getParam (setParam ps k v) k = some v := by
  rcases setParam_spec ps k v with ⟨pre, p, post, -, -, hpre, e⟩ | ⟨hall, e⟩ <;> rw [e]
  · exact getParam_first pre post k v hpre
  · exact getParam_first ps [] k v hall

theorem getParam_setParam_other (ps : List KeyValue) (k k' v : Bytes) (h : k' ≠ k) :
    getParam (setParam ps k v) k' = getParam ps k' := by
  have hk : (k == k') = false := by simpa using Ne.symm h
  rcases setParam_spec ps k v with ⟨pre, p, post, rfl, rfl, -, e⟩ | ⟨-, e⟩ <;> rw [e]
  · simp [getParam_append, getParam_cons, hk]
  · simp [getParam_append, getParam_cons, hk, getParam_nil]

theorem hasParam_setParam_same (ps : List KeyValue) (k v : Bytes) : hasParam (setParam ps k v) k = true := by
  rw [hasParam_eq_isSome, getParam_setParam_same]; rfl

theorem hasParam_setParam_other (ps : List KeyValue) (k k' v : Bytes) (h : k' ≠ k) :
    hasParam (setParam ps k v) k' = hasParam ps k' := by
  rw [hasParam_eq_isSome, hasParam_eq_isSome, getParam_setParam_other ps k k' v h]

theorem setParam_keys (ps : List KeyValue) (k v : Bytes) :
    (setParam ps k v).map (·.key) = if hasParam ps k then ps.map (·.key) else ps.map (·.key) ++ [k] := by
  rcases setParam_spec ps k v with ⟨pre, p, post, rfl, rfl, -, e⟩ | ⟨hall, e⟩ <;> rw [e]
  · simp [hasParam]
  · simp [(hasParam_false_iff ps k).mpr (getParam_none ps k hall)]

theorem setParam_length (ps : List KeyValue) (k v : Bytes) :
    (setParam ps k v).length = if hasParam ps k then ps.length else ps.length + 1 := by
  have := congrArg List.length (setParam_keys ps k v)
  simp only [List.length_map] at this
  rw [this]
  cases hasParam ps k <;> simp

theorem setParam_length_le (ps : List KeyValue) (k v : Bytes) :
    ps.length ≤ (setParam ps k v).length ∧ (setParam ps k v).length ≤ ps.length + 1 := by
  rw [setParam_length]
  cases hasParam ps k <;> simp

/-- a filter that rejects the key `k` does not see `setParam … k` -/
theorem setParam_filter (q : KeyValue → Bool) (ps : List KeyValue) (k v : Bytes)
    (hq : ∀ p, p.key = k → q p = false) : (setParam ps k v).filter q = ps.filter q := by
  have hv : q { key := k, value := v } = false := hq _ rfl
  rcases setParam_spec ps k v with ⟨pre, p, post, rfl, hk, -, e⟩ | ⟨-, e⟩ <;> rw [e]
  · simp [hv, hq p hk]
  · simp [hv]

example : setParam [⟨[1], [2]⟩, ⟨[3], [4]⟩, ⟨[3], [5]⟩] [3] [9] = [⟨[1], [2]⟩, ⟨[3], [9]⟩, ⟨[3], [5]⟩] := by decide +kernel
example : setParam [⟨[1], [2]⟩] [3] [9] = [⟨[1], [2]⟩, ⟨[3], [9]⟩] := by decide +kernel
example : getParam (setParam [⟨[1], [2]⟩] [3] [9]) [1] = getParam [⟨[1], [2]⟩] [1] :=
  getParam_setParam_other _ _ _ _ (by decide)

end Lemmas
