/-
Lemmas.Dialog — shape of the dialog identifier and of the URI core it is built from.
-/
import Sip.Message
import Lemmas.Codec
open GoStd Sip

namespace Lemmas

/-- the test by which `dialogId` puts the half (a₁, t₁) first: by address, then by tag -/
abbrev comesFirst (a₁ t₁ a₂ t₂ : Bytes) : Prop := (a₁ < a₂ || (a₁ == a₂ && t₁ < t₂)) = true

theorem comesFirst_iff (a₁ t₁ a₂ t₂ : Bytes) :
    comesFirst a₁ t₁ a₂ t₂ ↔ a₁ < a₂ ∨ (a₁ = a₂ ∧ t₁ < t₂) := by
  simp [comesFirst]

theorem comesFirst_asymm {a₁ t₁ a₂ t₂ : Bytes} (h : comesFirst a₁ t₁ a₂ t₂) : ¬ comesFirst a₂ t₂ a₁ t₁ := by
  rw [comesFirst_iff] at h ⊢
  rintro (h' | ⟨rfl, h'⟩)
  · rcases h with h | ⟨rfl, -⟩
    · exact List.lt_asymm h h'
    · exact List.lt_irrefl _ h'
  · rcases h with h | ⟨-, h⟩
    · exact List.lt_irrefl _ h
    · exact List.lt_asymm h h'

theorem eq_of_not_comesFirst {a₁ t₁ a₂ t₂ : Bytes} (h : ¬ comesFirst a₁ t₁ a₂ t₂)
    (h' : ¬ comesFirst a₂ t₂ a₁ t₁) : a₁ = a₂ ∧ t₁ = t₂ := by
  rw [comesFirst_iff, not_or] at h h'
  have ha : a₁ = a₂ := Std.Trichotomous.trichotomous (r := (· < ·)) a₁ a₂ h.1 h'.1
  subst ha
  exact ⟨rfl, Std.Trichotomous.trichotomous (r := (· < ·)) t₁ t₂ (fun x => h.2 ⟨rfl, x⟩) (fun x => h'.2 ⟨rfl, x⟩)⟩

/-- Call-ID and the two halves, joined by blanks, the halves in one order or the other; `P` is whatever
holds of the five parts (in C16: they hold no blank, so that the joined text determines them) -/
theorem dialogId_eq_join {P : Bytes → Prop} {c t₁ a₁ t₂ a₂ : Bytes} (hc : P c) (ht₁ : P t₁) (ha₁ : P a₁)
    (ht₂ : P t₂) (ha₂ : P a₂) :
    ∃ l, dialogId c t₁ a₁ t₂ a₂ = join [32] (c :: l) ∧ (l = [t₁, a₁, t₂, a₂] ∨ l = [t₂, a₂, t₁, a₁]) ∧
      ∀ p ∈ c :: l, P p := by
  unfold dialogId dialogSep
  split
  · exact ⟨_, by simp only [join, List.append_assoc], .inl rfl, by simp only [List.forall_mem_cons, *]; simp⟩
  · exact ⟨_, by simp only [join, List.append_assoc], .inr rfl, by simp only [List.forall_mem_cons, *]; simp⟩

theorem write_core_no_blank (u : SIPURI) (hs : (32 : UInt8) ∉ u.scheme) (hu : (32 : UInt8) ∉ u.user)
    (hp : (32 : UInt8) ∉ u.password) (hh : (32 : UInt8) ∉ u.host) : (32 : UInt8) ∉ u.write false false := by
  rw [write_eq]
  simp only [Bool.false_eq_true, ↓reduceIte, List.append_nil, List.mem_append, List.mem_cons, not_or]
  exact ⟨hs, by decide, not_mem_userInfoText hu hp (by decide) (by decide),
    not_mem_hostPortText _ hh (by decide)⟩

theorem portText_inj {p q : Int} (e : portText p = portText q) : p = q := by
  unfold portText at e
  split at e <;> split at e
  · simp_all
  · exact absurd e.symm (itoa_ne_nil q)
  · exact absurd e (itoa_ne_nil p)
  · exact itoa_injective p q e

/-- both sides are read back by the same cuts; a password is written only behind a user, so without one
it is not determined -/
theorem userHostText_inj {u p h u' p' h' : Bytes} {q q' : Int}
    (hu : (58 : UInt8) ∉ u ∧ (64 : UInt8) ∉ u) (hu' : (58 : UInt8) ∉ u' ∧ (64 : UInt8) ∉ u')
    (hp : (64 : UInt8) ∉ p) (hp' : (64 : UInt8) ∉ p')
    (hh : (58 : UInt8) ∉ h ∧ (64 : UInt8) ∉ h) (hh' : (58 : UInt8) ∉ h' ∧ (64 : UInt8) ∉ h')
    (e : userInfoText u p ++ hostPortText h q = userInfoText u' p' ++ hostPortText h' q') :
    u = u' ∧ (u ≠ [] → p = p') ∧ h = h' ∧ q = q' := by
  have hostPort : ∀ {h h' q q'}, (58 : UInt8) ∉ h → (58 : UInt8) ∉ h' →
      hostPortText h q = hostPortText h' q' → h = h' ∧ q = q' := fun a a' e =>
    ⟨(optSuffix_inj a a' e).1, portText_inj (optSuffix_inj a a' e).2⟩
  have hc := congrArg (cut 64) e
  rw [cut_userInfoText hu.2 hp (not_mem_hostPortText q hh.2 (by decide)),
    cut_userInfoText hu'.2 hp' (not_mem_hostPortText q' hh'.2 (by decide))] at hc
  by_cases h0 : u = [] <;> by_cases h0' : u' = [] <;> simp only [h0, h0', ↓reduceIte] at hc
  · subst h0 h0'
    exact ⟨rfl, fun x => absurd rfl x, hostPort hh.1 hh'.1 e⟩
  · cases hc
  · cases hc
  · simp only [Option.some.injEq, Prod.mk.injEq] at hc
    obtain ⟨e1, e2⟩ := optSuffix_inj hu.1 hu'.1 hc.1
    exact ⟨e1, fun _ => e2, hostPort hh.1 hh'.1 hc.2⟩

end Lemmas
