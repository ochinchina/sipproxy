/-
Lemmas.Bytes — cut / split / join laws (the bottom layer of every codec theorem).
-/
import GoStd.Bytes
open GoStd

namespace Lemmas

theorem cut_append_of_not_mem (c : UInt8) (l r : Bytes) (h : c ∉ l) :
    cut c (l ++ c :: r) = some (l, r) := by
  induction l with
  | nil => simp [cut]
  | cons b bs ih =>
    have hb : b ≠ c := fun e => h (by simp [e])
    have hbs : c ∉ bs := fun m => h (by simp [m])
    simp [cut, hb, ih hbs]

theorem cut_of_not_mem (c : UInt8) (s : Bytes) (h : c ∉ s) : cut c s = none := by
  induction s with
  | nil => rfl
  | cons b bs ih =>
    have hb : b ≠ c := fun e => h (by simp [e])
    have hbs : c ∉ bs := fun m => h (by simp [m])
    simp [cut, hb, ih hbs]

theorem cut_eq_none_iff (c : UInt8) (s : Bytes) : cut c s = none ↔ c ∉ s := by
  refine ⟨fun h hm => ?_, cut_of_not_mem c s⟩
  obtain ⟨l, r, rfl, hl⟩ := List.eq_append_cons_of_mem hm
  rw [cut_append_of_not_mem c l r hl] at h
  cases h

theorem cut_some (c : UInt8) (s l r : Bytes) (h : cut c s = some (l, r)) :
    s = l ++ c :: r ∧ c ∉ l := by
  have hm : c ∈ s := Decidable.byContradiction fun hn => by rw [cut_of_not_mem c s hn] at h; cases h
  obtain ⟨l', r', rfl, hl⟩ := List.eq_append_cons_of_mem hm
  rw [cut_append_of_not_mem c l' r' hl] at h
  cases h
  exact ⟨rfl, hl⟩

theorem split_ne_nil (c : UInt8) (s : Bytes) : split c s ≠ [] := by
  induction s with
  | nil => simp [split]
  | cons b bs ih =>
    simp only [split]
    split
    · simp
    · split <;> simp

/-- a byte that is not the separator joins the first piece -/
theorem split_cons_ne {c b : UInt8} (h : b ≠ c) (s : Bytes) :
    ∃ p ps, split c s = p :: ps ∧ split c (b :: s) = (b :: p) :: ps := by
  rw [split, if_neg h]
  cases hs : split c s with
  | nil => exact absurd hs (split_ne_nil c s)
  | cons p ps => exact ⟨p, ps, rfl, rfl⟩

theorem split_of_not_mem (c : UInt8) (s : Bytes) (h : c ∉ s) : split c s = [s] := by
  induction s with
  | nil => simp [split]
  | cons b bs ih =>
    have hb : b ≠ c := fun e => h (by simp [e])
    have hbs : c ∉ bs := fun m => h (by simp [m])
    simp [split, hb, ih hbs]

/-- `strings.Split(a + sep + b) = strings.Split(a) ++ strings.Split(b)` (no side condition) -/
theorem split_append_sep_gen (c : UInt8) (a b : Bytes) : split c (a ++ c :: b) = split c a ++ split c b := by
  induction a with
  | nil => simp [split]
  | cons x xs ih =>
    simp only [List.cons_append, split]
    by_cases hx : x = c
    · simp [hx, ih]
    · simp only [hx, ↓reduceIte, ih]
      cases hs : split c xs with
      | nil => exact absurd hs (split_ne_nil c xs)
      | cons p ps => simp

theorem split_append_sep (c : UInt8) (l r : Bytes) (h : c ∉ l) :
    split c (l ++ c :: r) = l :: split c r := by
  rw [split_append_sep_gen, split_of_not_mem c l h]; rfl

theorem split_three {c : UInt8} {a b d : Bytes} (ha : c ∉ a) (hb : c ∉ b) (hd : c ∉ d) :
    split c (a ++ c :: (b ++ c :: d)) = [a, b, d] := by
  rw [split_append_sep c a _ ha, split_append_sep c b _ hb, split_of_not_mem c d hd]

/-- `strings.Join(strings.Split(s, c), c) = s` for every s. -/
theorem join_split (c : UInt8) (s : Bytes) : join [c] (split c s) = s := by
  induction s with
  | nil => simp [split, join]
  | cons b bs ih =>
    simp only [split]
    by_cases hb : b = c
    · simp only [hb, ↓reduceIte]
      cases hs : split c bs with
      | nil => exact absurd hs (split_ne_nil c bs)
      | cons p ps =>
        rw [hs] at ih
        simp [join, ih]
    · simp only [hb, ↓reduceIte]
      cases hs : split c bs with
      | nil => exact absurd hs (split_ne_nil c bs)
      | cons p ps =>
        rw [hs] at ih
        cases ps with
        | nil => simp [join] at ih ⊢; exact ih
        | cons q qs => simp [join] at ih ⊢; exact ih

/-- `strings.Split(strings.Join(ps, c), c) = ps` when no part contains the separator. -/
theorem split_join (c : UInt8) (ps : List Bytes) (hne : ps ≠ []) (h : ∀ p ∈ ps, c ∉ p) :
    split c (join [c] ps) = ps := by
  induction ps with
  | nil => exact absurd rfl hne
  | cons p qs ih =>
    cases qs with
    | nil =>
      simp only [join]
      exact split_of_not_mem c p (h p (by simp))
    | cons q rs =>
      simp only [join]
      have hp : c ∉ p := h p (by simp)
      have := ih (by simp) (fun x hx => h x (by simp [hx]))
      rw [List.append_assoc, List.singleton_append, split_append_sep c p _ hp, this]

/-- `join`, part by part: every part but the first stands behind a separator. The `;`- and `&`-lists
of the codec are the right-hand side, so `split_join` reads them back. -/
theorem join_cons (c : UInt8) (x : Bytes) (xs : List Bytes) :
    join [c] (x :: xs) = x ++ xs.flatMap (c :: ·) := by
  induction xs generalizing x with
  | nil => simp [join]
  | cons y ys ih => simp [join, ih]

theorem not_mem_sepBefore {x c : UInt8} {xs : List Bytes} (hc : x ≠ c) (h : ∀ p ∈ xs, x ∉ p) :
    x ∉ xs.flatMap (c :: ·) := by
  simp only [List.mem_flatMap, List.mem_cons, not_exists, not_and, not_or]
  exact fun p hp => ⟨hc, h p hp⟩

theorem not_mem_of_mem_split (c : UInt8) (s p : Bytes) (h : p ∈ split c s) : c ∉ p := by
  induction s generalizing p with
  | nil => simp [split] at h; simp [h]
  | cons b bs ih =>
    simp only [split] at h
    by_cases hb : b = c
    · simp only [hb, ↓reduceIte, List.mem_cons] at h
      rcases h with rfl | h
      · simp
      · exact ih p h
    · simp only [hb, ↓reduceIte] at h
      cases hs : split c bs with
      | nil => exact absurd hs (split_ne_nil c bs)
      | cons q qs =>
        rw [hs] at h
        simp only [List.mem_cons] at h
        rcases h with rfl | h
        · have := ih q (by rw [hs]; simp)
          simp only [List.mem_cons, not_or]
          exact ⟨Ne.symm hb, this⟩
        · exact ih p (by rw [hs]; simp [h])

theorem cutLast_of_not_mem (c : UInt8) (s : Bytes) (h : c ∉ s) : cutLast c s = none := by
  induction s with
  | nil => rfl
  | cons b bs ih =>
    have hb : b ≠ c := fun e => h (by simp [e])
    simp [cutLast, ih (fun m => h (by simp [m])), hb]

theorem cutLast_append (c : UInt8) (l r : Bytes) (h : c ∉ r) : cutLast c (l ++ c :: r) = some (l, r) := by
  induction l with
  | nil => simp [cutLast, cutLast_of_not_mem c r h]
  | cons b bs ih => simp [cutLast, ih]

/-! ### a separator that occurs in no part makes concatenation with it injective -/

theorem join_injective (c : UInt8) (ps qs : List Bytes) (hp : ps ≠ []) (hq : qs ≠ [])
    (hps : ∀ p ∈ ps, c ∉ p) (hqs : ∀ q ∈ qs, c ∉ q) (h : join [c] ps = join [c] qs) : ps = qs := by
  rw [← split_join c ps hp hps, ← split_join c qs hq hqs, h]

theorem append_cons_injective (c : UInt8) (m₁ m₂ b₁ b₂ : Bytes) (h₁ : c ∉ m₁) (h₂ : c ∉ m₂)
    (h : m₁ ++ c :: b₁ = m₂ ++ c :: b₂) : m₁ = m₂ ∧ b₁ = b₂ := by
  have e₁ := cut_append_of_not_mem c m₁ b₁ h₁
  rw [h, cut_append_of_not_mem c m₂ b₂ h₂] at e₁
  simpa [eq_comm] using e₁

/-! ### a part and an optional second part behind a separator: key[=value], user[:password], host[:port] -/

def optSuffix (c : UInt8) (a b : Bytes) : Bytes := if b = [] then a else a ++ c :: b

@[simp] theorem optSuffix_nil (c : UInt8) (a : Bytes) : optSuffix c a [] = a := rfl

theorem cut_optSuffix {c : UInt8} {a : Bytes} (b : Bytes) (h : c ∉ a) :
    cut c (optSuffix c a b) = if b = [] then none else some (a, b) := by
  unfold optSuffix
  split
  · exact cut_of_not_mem c a h
  · exact cut_append_of_not_mem c a b h

theorem split_optSuffix {c : UInt8} {a b : Bytes} (ha : c ∉ a) (hb : c ∉ b) :
    split c (optSuffix c a b) = if b = [] then [a] else [a, b] := by
  unfold optSuffix
  split
  · exact split_of_not_mem c a ha
  · rw [split_append_sep c a b ha, split_of_not_mem c b hb]

theorem not_mem_optSuffix {x c : UInt8} {a b : Bytes} (ha : x ∉ a) (hc : x ≠ c) (hb : x ∉ b) :
    x ∉ optSuffix c a b := by
  unfold optSuffix
  split
  · exact ha
  · simp [ha, hc, hb]

theorem optSuffix_ne_nil {c : UInt8} {a b : Bytes} (h : a ≠ []) : optSuffix c a b ≠ [] := by
  unfold optSuffix
  split <;> simp [h]

/-- both parts can be read back, because `cut` reads them back -/
theorem optSuffix_inj {c : UInt8} {a a' b b' : Bytes} (h : c ∉ a) (h' : c ∉ a')
    (e : optSuffix c a b = optSuffix c a' b') : a = a' ∧ b = b' := by
  have hc := congrArg (cut c) e
  rw [cut_optSuffix b h, cut_optSuffix b' h'] at hc
  by_cases hb : b = [] <;> by_cases hb' : b' = [] <;> simp [hb, hb'] at hc
  · simpa [optSuffix, hb, hb'] using e
  · exact hc

end Lemmas
