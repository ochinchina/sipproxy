/-
Lemmas.PipeRel — the lift of a message relation through `Proxy.Model`, once and for all.

`PipeRel R cm`: the relation `R` on messages is respected by the PRIMITIVE header operations of
`Sip.Message` in the way the pipeline uses them (the typed getters return equal values — for Via and
Route only equal FIRST entries are required —, the mutators return related messages). From these
primitives alone: every function of the pipeline up to `Proxy.step` returns equal states / hops /
identifiers, related messages, and outputs with the same destinations whose payloads are
serialisations of related messages (`step_rel`).

Instances: re-spelling (`Lemmas.SpellPipe`), re-layout (`Lemmas.LayoutPipe`).
-/
import Lemmas.Stages
import Lemmas.Headers
open GoStd Sip Proxy

namespace Lemmas

def _root_.Proxy.Out.dest : Out → Out
  | .backend a _ => .backend a []
  | .udp ip p _ => .udp ip p []
  | .conn c _ => .conn c []
  | .tcp ip p _ => .tcp ip p []

section Defs
variable (R : Message → Message → Prop)

structure PipeRel (cm : List (Bytes × Bytes)) : Prop where
  start : ∀ {m m'}, R m m' → m.start = m'.start
  getVia : ∀ {m m'}, R m m' → HeadRel R (getVia cm m) (getVia cm m')
  getRoute : ∀ {m m'}, R m m' → HeadRel R (getRoute cm m) (getRoute cm m')
  getFrom : ∀ {m m'}, R m m' → GRel R (getFrom cm m) (getFrom cm m')
  getTo : ∀ {m m'}, R m m' → GRel R (getTo cm m) (getTo cm m')
  getCSeq : ∀ {m m'}, R m m' → GRel R (getCSeq cm m) (getCSeq cm m')
  rawCallId : ∀ {m m'}, R m m' → getRawHeader cm m callIdName = getRawHeader cm m' callIdName
  rawExpires : ∀ {m m'}, R m m' → getRawHeader cm m expiresName = getRawHeader cm m' expiresName
  rawSubst : ∀ {m m'}, R m m' → getRawHeader cm m subscriptionStateName = getRawHeader cm m' subscriptionStateName
  popVia : ∀ {m m'}, R m m' → ORel R (popVia cm m) (popVia cm m')
  popRoute : ∀ {m m'}, R m m' → ORel R (popRoute cm m) (popRoute cm m')
  setReceived : ∀ {m m'}, R m m' → ∀ ip port, R (setReceived cm m ip port) (setReceived cm m' ip port)
  addVia : ∀ {m m'}, R m m' → ∀ vp, R (addVia cm m vp) (addVia cm m' vp)
  addRecordRoute : ∀ {m m'}, R m m' → ∀ rr, R (addRecordRoute cm m rr) (addRecordRoute cm m' rr)
  rrPresent : ∀ {m m'}, R m m' →
    (findHeader cm m.headers recordRouteName).isSome = (findHeader cm m'.headers recordRouteName).isSome
  forEachVia : ∀ {m m'}, R m m' →
    (forEachViaHeaders cm m.headers).2 = (forEachViaHeaders cm m'.headers).2 ∧
    R { m with headers := (forEachViaHeaders cm m.headers).1 } { m' with headers := (forEachViaHeaders cm m'.headers).1 }

end Defs

section Out
variable (R : Message → Message → Prop) (cfg : Cfg)

def DataRelG (d d' : Bytes) : Prop := ∃ m m', d = m.bytes cfg.cm ∧ d' = m'.bytes cfg.cm ∧ R m m'

def OutRelG (o o' : Out) : Prop := o.dest = o'.dest ∧ DataRelG R cfg o.data o'.data

inductive OutsRelG : List Out → List Out → Prop where
  | nil : OutsRelG [] []
  | cons {o o' : Out} {l l' : List Out} : OutRelG R cfg o o' → OutsRelG l l' → OutsRelG (o :: l) (o' :: l')

def SRG (r r' : St × List Out) : Prop := r.1 = r'.1 ∧ OutsRelG R cfg r.2 r'.2

theorem OutsRelG.dest_eq {R : Message → Message → Prop} {cfg : Cfg} {l l' : List Out} (h : OutsRelG R cfg l l') :
    l.map Out.dest = l'.map Out.dest := by
  induction h with
  | nil => rfl
  | cons hr _ ih => simp [hr.1, ih]

theorem OutsRelG.append {R : Message → Message → Prop} {cfg : Cfg} {a a' b b' : List Out}
    (h : OutsRelG R cfg a a') (k : OutsRelG R cfg b b') : OutsRelG R cfg (a ++ b) (a' ++ b') := by
  induction h with
  | nil => exact k
  | cons hr _ ih => exact .cons hr ih

theorem OutsRelG.get {R : Message → Message → Prop} {cfg : Cfg} {l l' : List Out} (h : OutsRelG R cfg l l')
    (i : Nat) (o o' : Out) (ho : l[i]? = some o) (ho' : l'[i]? = some o') : OutRelG R cfg o o' := by
  induction h generalizing i with
  | nil => simp at ho
  | cons hr _ ih =>
    cases i with
    | zero =>
      simp only [List.getElem?_cons_zero, Option.some.injEq] at ho ho'
      subst ho ho'
      exact hr
    | succ i =>
      simp only [List.getElem?_cons_succ] at ho ho'
      exact ih i ho ho'

theorem entrySend_relG (e : TransEntry) {d d' : Bytes} (h : DataRelG R cfg d d') :
    OutsRelG R cfg (entrySend e d) (entrySend e d') := by
  unfold entrySend
  cases e.primary with
  | some p =>
    cases p with
    | conn c => exact .cons ⟨rfl, h⟩ .nil
    | udp ip port => exact .cons ⟨rfl, h⟩ .nil
  | none =>
    simp only []
    cases e.secondary with
    | none => exact .nil
    | some q =>
      obtain ⟨ip, port⟩ := q
      simp only []
      split
      · exact .cons ⟨rfl, h⟩ .nil
      · exact .nil

/-- Stated for variable payloads `d`, `d'`: with `m.bytes cm` and `m'.bytes cm` of a real call in their
place, the `rfl` for the destinations first tries to unify the two serialisations, at millions of steps. -/
theorem outRelG_backend (a : Bytes) {d d' : Bytes} (h : DataRelG R cfg d d') :
    OutRelG R cfg (.backend a d) (.backend a d') := ⟨rfl, h⟩

end Out

section
variable {R : Message → Message → Prop} {cm : List (Bytes × Bytes)} (I : PipeRel R cm) {m m' : Message}
include I

theorem PipeRel.getMethod (H : R m m') : GRel R (getMethod cm m) (getMethod cm m') :=
  GRel.getMethod I.start I.getCSeq H

theorem PipeRel.getDialog (H : R m m') :
    ∃ d m1 m1', Sip.getDialog cm m = (d, m1) ∧ Sip.getDialog cm m' = (d, m1') ∧ R m1 m1' :=
  (PRel.getDialog I.rawCallId I.getFrom I.getTo H).elim

theorem PipeRel.getClientTransaction (H : R m m') :
    ∃ tid m1 m1', Sip.getClientTransaction cm m = (tid, m1) ∧ Sip.getClientTransaction cm m' = (tid, m1') ∧ R m1 m1' :=
  (PRel.getClientTransaction I.getCSeq I.getVia H).elim

end

section Lift
variable {R : Message → Message → Prop} (cfg : Cfg) (I : PipeRel R cfg.cm) {m m' : Message}
include I

theorem isRequest_rel (H : R m m') : isRequest m = isRequest m' := by
  unfold isRequest; rw [I.start H]

theorem isResponse_rel (H : R m m') : isResponse m = isResponse m' := by
  unfold isResponse; rw [isRequest_rel cfg I H]

theorem isFinalResponse_rel (H : R m m') (fc : List Int) : isFinalResponse fc m = isFinalResponse fc m' := by
  unfold isFinalResponse; rw [I.start H]

theorem isMyMessage_rel (H : R m m') (frm : Listener) (rx : Bool) :
    isMyMessage cfg frm m rx = isMyMessage cfg frm m' rx := by
  unfold isMyMessage; rw [I.start H]

theorem getExpires_rel (H : R m m') (d : Int) : getExpires cfg.cm m d = getExpires cfg.cm m' d := by
  unfold getExpires getHeaderInt; rw [I.rawExpires H]

theorem getNextResponseHop_rel (H : R m m') : PRel R (getNextResponseHop cfg m) (getNextResponseHop cfg m') := by
  unfold getNextResponseHop
  rcases I.getVia H with ⟨h1, h2⟩ | ⟨v, v', m1, m1', h1, h2, hh, H1⟩
  · rw [h1, h2]; exact ⟨rfl, H⟩
  · rw [h1, h2]
    dsimp only
    rcases head_cases hh with ⟨rfl, rfl⟩ | ⟨vp, t, t', rfl, rfl⟩
    · exact ⟨rfl, H1⟩
    · dsimp only
      cases getParam vp.params (str "received") <;> exact ⟨rfl, H1⟩

theorem getNextRequestHopByRoute_rel (H : R m m') :
    PRel R (getNextRequestHopByRoute cfg m) (getNextRequestHopByRoute cfg m') := by
  unfold getNextRequestHopByRoute
  rcases I.getRoute H with ⟨h1, h2⟩ | ⟨r, r', m1, m1', h1, h2, hh, H1⟩
  · rw [h1, h2]; exact ⟨rfl, H⟩
  · rw [h1, h2]
    dsimp only
    rcases head_cases hh with ⟨rfl, rfl⟩ | ⟨rp, t, t', rfl, rfl⟩
    · exact ⟨rfl, H1⟩
    · dsimp only
      have H2 : R (if !cfg.keepNextHopRoute then (popRoute cfg.cm m1).getD m1 else m1)
          (if !cfg.keepNextHopRoute then (popRoute cfg.cm m1').getD m1' else m1') := by
        cases cfg.keepNextHopRoute with
        | false => exact (I.popRoute H1).getD H1
        | true => exact H1
      cases rp.nameAddr.addr <;> exact ⟨rfl, H2⟩

theorem getNextRequestHopByConfig_rel (H : R m m') :
    PRel R (getNextRequestHopByConfig cfg m) (getNextRequestHopByConfig cfg m') := by
  unfold getNextRequestHopByConfig
  rcases I.getTo H with ⟨h1, h2⟩ | ⟨t, m1, m1', h1, h2, H1⟩
  · rw [h1, h2]; exact ⟨rfl, H⟩
  · rw [h1, h2]
    dsimp only
    cases toHost t with
    | none => exact ⟨rfl, H1⟩
    | some h =>
      dsimp only
      cases Side.SR.findRoute cfg.routes h <;> exact ⟨rfl, H1⟩

theorem getNextRequestHop_rel (H : R m m') : PRel R (getNextRequestHop cfg m) (getNextRequestHop cfg m') := by
  unfold getNextRequestHop
  obtain ⟨o, m1, m1', e1, e2, H1⟩ := (getNextRequestHopByRoute_rel cfg I H).elim
  rw [e1, e2]
  cases o with
  | some hop => exact ⟨rfl, H1⟩
  | none => exact getNextRequestHopByConfig_rel cfg I H1

theorem insertSelf_rel (H : R m m') (t : Listener) (br : Bytes) :
    R (insertSelf cfg m t br) (insertSelf cfg m' t br) := by
  unfold insertSelf
  have H1 := I.addVia H (ownVia t br)
  have hf := I.rrPresent H1
  simp only [← Option.not_isSome, hf]
  split
  · exact H1
  · exact I.addRecordRoute H1 _

theorem sendMessage_rel (H : R m m') (st : St) (h : Hop) :
    SRG R cfg (sendMessage cfg st h m) (sendMessage cfg st h m') := by
  unfold sendMessage
  obtain ⟨tid, m1, m1', e1, e2, H1⟩ := I.getClientTransaction H
  rw [e1, e2]
  dsimp only
  cases getTransport cfg st.trans h.transport ((getIp cfg h.host).getD h.host) h.port (tid.getD []) with
  | none => exact ⟨rfl, .nil⟩
  | some r =>
    obtain ⟨tr1, k, e⟩ := r
    dsimp only
    rw [isFinalResponse_rel cfg I H1]
    exact ⟨rfl, entrySend_relG R cfg e ⟨m1, m1', rfl, rfl, H1⟩⟩

theorem findBackendByDialog_rel (H : R m m') (st : St) :
    ∃ b ps m1 m1', findBackendByDialog cfg st m = (b, ps, m1) ∧ findBackendByDialog cfg st m' = (b, ps, m1') ∧
      R m1 m1' := by
  unfold findBackendByDialog
  rw [← I.start H]
  cases m.start with
  | status _ _ _ => exact ⟨_, _, _, _, rfl, rfl, H⟩
  | request method _ _ =>
    dsimp only
    obtain ⟨d, m1, m1', e1, e2, H1⟩ := I.getDialog H
    rw [e1, e2]
    cases d with
    | none => exact ⟨_, _, _, _, rfl, rfl, H1⟩
    | some d => dsimp only; rw [I.rawSubst H1]; exact ⟨_, _, _, _, rfl, rfl, H1⟩

theorem sendToBackend_rel (H : R m m') (st : St) (br : Bytes) :
    SRG R cfg (sendToBackend cfg st m br) (sendToBackend cfg st m' br) := by
  unfold sendToBackend
  cases cfg.transports0 with
  | none => exact ⟨rfl, .nil⟩
  | some t0 =>
    dsimp only
    obtain ⟨pinned, pins1, m1, m1', e1, e2, H1⟩ := findBackendByDialog_rel cfg I H st
    rw [e1, e2]
    dsimp only
    have H2 := insertSelf_rel cfg I H1 t0 br
    obtain ⟨tid, m3, m3', e3, e4, H3⟩ := I.getClientTransaction H2
    rw [e3, e4, getExpires_rel cfg I H3]
    split
    · exact ⟨rfl, .nil⟩
    · exact ⟨rfl, .cons (outRelG_backend R cfg _ ⟨_, _, rfl, rfl, H2⟩) .nil⟩

omit I in
structure EvRel (R : Message → Message → Prop) (ev ev' : RawEv) : Prop where
  peerAddr : ev.peerAddr = ev'.peerAddr
  peerPort : ev.peerPort = ev'.peerPort
  frm : ev.frm = ev'.frm
  receivedSupport : ev.receivedSupport = ev'.receivedSupport
  tcpConn : ev.tcpConn = ev'.tcpConn
  rxMatch : ev.rxMatch = ev'.rxMatch
  branch : ev.branch = ev'.branch
  msg : R ev.msg ev'.msg

omit I in
theorem EvRel.of_msg {R : Message → Message → Prop} (ev : RawEv) {m' : Message} (H : R ev.msg m') :
    EvRel R ev { ev with msg := m' } :=
  ⟨rfl, rfl, rfl, rfl, rfl, rfl, rfl, H⟩

variable {ev ev' : RawEv}

theorem rawLearn_rel (E : EvRel R ev ev') (st : St) : PRel R (rawLearn cfg st ev) (rawLearn cfg st ev') := by
  unfold rawLearn
  rw [← E.peerAddr, ← E.frm, ← isRequest_rel cfg I E.msg]
  split
  · obtain ⟨hv, K⟩ := I.forEachVia E.msg
    obtain ⟨vias, hs, hs', e1, e2⟩ : ∃ vias hs hs', forEachViaHeaders cfg.cm ev.msg.headers = (hs, vias) ∧
        forEachViaHeaders cfg.cm ev'.msg.headers = (hs', vias) := ⟨_, _, _, rfl, by rw [hv]⟩
    rw [e1, e2] at K ⊢
    exact ⟨rfl, K⟩
  · exact ⟨rfl, E.msg⟩

theorem rawStamp_rel (E : EvRel R ev ev') {m1 m1' : Message} (H1 : R m1 m1') :
    R (rawStamp cfg ev m1) (rawStamp cfg ev' m1') := by
  unfold rawStamp
  rw [← E.peerAddr, ← E.peerPort, ← E.receivedSupport, ← isRequest_rel cfg I E.msg]
  split
  · exact I.setReceived H1 _ _
  · exact H1

theorem rawConn_rel (E : EvRel R ev ev') {m2 m2' : Message} (H2 : R m2 m2') (st : St) :
    PRel R (rawConn cfg st ev m2) (rawConn cfg st ev' m2') := by
  unfold rawConn
  rw [← E.tcpConn, ← isRequest_rel cfg I E.msg]
  cases isRequest ev.msg with
  | false => exact ⟨rfl, H2⟩
  | true =>
    cases ev.tcpConn with
    | none => exact ⟨rfl, H2⟩
    | some c =>
      dsimp only
      obtain ⟨hop, m3, m3', e1, e2, H3⟩ := (getNextResponseHop_rel cfg I H2).elim
      rw [e1, e2]
      cases hop with
      | none => exact ⟨rfl, H3⟩
      | some hop =>
        dsimp only
        obtain ⟨tid, m4, m4', e3, e4, H4⟩ := I.getClientTransaction H3
        rw [e3, e4]
        cases tid with
        | none => exact ⟨rfl, H4⟩
        | some tid =>
          dsimp only
          cases getTransport cfg st.trans (str "tcp") (regHost cfg hop.host) hop.port tid <;> exact ⟨rfl, H4⟩

theorem rawOwnRoute_rel (E : EvRel R ev ev') {m3 m3' : Message} (H3 : R m3 m3') :
    R (rawOwnRoute cfg ev m3) (rawOwnRoute cfg ev' m3') := by
  unfold rawOwnRoute
  rcases I.getRoute H3 with ⟨h1, h2⟩ | ⟨r, r', m1, m1', h1, h2, hh, H1⟩
  · rw [h1, h2]; exact H3
  · rw [h1, h2]
    dsimp only
    rcases head_cases hh with ⟨rfl, rfl⟩ | ⟨rp, t, t', rfl, rfl⟩
    · exact H1
    · dsimp only
      cases rp.nameAddr.addr with
      | abs _ => exact H1
      | sip u =>
        dsimp only
        rw [← E.frm]
        split
        · exact (I.popRoute H1).getD H1
        · exact H1

theorem handleRawMessage_rel (E : EvRel R ev ev') (st : St) :
    PRel R (handleRawMessage cfg st ev) (handleRawMessage cfg st ev') := by
  rw [handleRawMessage_eq, handleRawMessage_eq]
  obtain ⟨h1, H1⟩ := rawLearn_rel cfg I E st
  have H2 := rawStamp_rel cfg I E H1
  obtain ⟨h3, H3⟩ := rawConn_rel cfg I E H2 st
  have H4 := rawOwnRoute_rel cfg I E H3
  exact ⟨by simp only [h1, h3], H4⟩

theorem dialogBackend_rel (H : R m m') (st : St) (addr : Bytes) :
    ∃ b ps m1 m1', dialogBackend cfg st addr m = (b, ps, m1) ∧ dialogBackend cfg st addr m' = (b, ps, m1') ∧
      R m1 m1' := by
  unfold dialogBackend
  cases st.backends.contains addr with
  | true => exact ⟨_, _, _, _, rfl, rfl, H⟩
  | false =>
    obtain ⟨tid, m1, m1', e1, e2, H1⟩ := I.getClientTransaction H
    rw [e1, e2]
    cases tid with
    | none => exact ⟨_, _, _, _, rfl, rfl, H1⟩
    | some tid => dsimp only; rw [isFinalResponse_rel cfg I H1]; exact ⟨_, _, _, _, rfl, rfl, H1⟩

theorem dialogPin_rel {m1 m1' : Message} (H1 : R m1 m1') (st : St) (backend : Option BackendRef)
    (pins1 : List PinEntry) : PRel R (dialogPin cfg st backend pins1 m1) (dialogPin cfg st backend pins1 m1') := by
  rw [dialogPin_eq, dialogPin_eq]
  cases backend with
  | none => exact ⟨rfl, H1⟩
  | some b =>
    rcases I.getMethod H1 with ⟨h1, h2⟩ | ⟨method, m2, m2', h1, h2, H2⟩
    · rw [h1, h2]; exact ⟨rfl, H1⟩
    · rw [h1, h2]
      dsimp only
      obtain ⟨d, m3, m3', e1, e2, H3⟩ := I.getDialog H2
      rw [e1, e2]
      split
      · rw [getExpires_rel cfg I H3]; exact ⟨rfl, H3⟩
      · exact ⟨rfl, H2⟩

theorem handleDialog_rel (H : R m m') (st : St) (a : Bytes) (p : Int) :
    PRel R (handleDialog cfg st a p m) (handleDialog cfg st a p m') := by
  rw [handleDialog_eq, handleDialog_eq, ← isResponse_rel cfg I H]
  split
  · exact ⟨rfl, H⟩
  · obtain ⟨b, ps, m1, m1', e1, e2, H1⟩ := dialogBackend_rel cfg I H st (joinHostPort a p)
    rw [e1, e2]
    exact dialogPin_rel cfg I H1 st _ _

theorem respPin_rel {m2 m2' : Message} (H2 : R m2 m2') (st : St) (hop : Option Hop) :
    PRel R (respPin cfg st hop m2) (respPin cfg st hop m2') := by
  rw [respPin_eq, respPin_eq]
  rcases I.getMethod H2 with ⟨h1, h2⟩ | ⟨method, m3, m3', h1, h2, H3⟩
  · rw [h1, h2]; exact ⟨rfl, H2⟩
  · rw [h1, h2]
    dsimp only
    obtain ⟨d, m4, m4', e1, e2, H4⟩ := I.getDialog H3
    rw [e1, e2]
    split
    · rw [getExpires_rel cfg I H4]; exact ⟨rfl, H4⟩
    · exact ⟨rfl, H3⟩

theorem handleMessage_rel (E : EvRel R ev ev') (H : R m m') (st : St) :
    SRG R cfg (handleMessage cfg st ev m) (handleMessage cfg st ev' m') := by
  cases hreq : isRequest m with
  | true =>
    have hreq' : isRequest m' = true := by rw [← isRequest_rel cfg I H]; exact hreq
    rw [handleMessage_request cfg st ev m hreq, handleMessage_request cfg st ev' m' hreq']
    obtain ⟨hop, m1, m1', e1, e2, H1⟩ := (getNextRequestHop_rel cfg I H).elim
    rw [e1, e2]
    cases hop with
    | some hop =>
      simp only []
      rw [← E.branch]
      cases assocGet st.learned hop.host with
      | none => exact sendMessage_rel cfg I H1 st hop
      | some t => exact sendMessage_rel cfg I (insertSelf_rel cfg I H1 t ev.branch) st hop
    | none =>
      simp only []
      rw [← E.branch, ← E.frm, ← E.rxMatch, ← isMyMessage_rel cfg I H1]
      split
      · exact sendToBackend_rel cfg I H1 st ev.branch
      · exact ⟨rfl, .nil⟩
  | false =>
    have hreq' : isRequest m' = false := by rw [← isRequest_rel cfg I H]; exact hreq
    rw [handleMessage_response cfg st ev m hreq, handleMessage_response cfg st ev' m' hreq']
    have H1 := (I.popVia H).getD H
    obtain ⟨h2, H2⟩ := getNextResponseHop_rel cfg I H1
    rw [← h2]
    cases (getNextResponseHop cfg ((popVia cfg.cm m).getD m)).1 with
    | none =>
      simp only []
      exact ⟨(respPin_rel cfg I H2 st none).1, .nil⟩
    | some h =>
      simp only []
      obtain ⟨h3, H3⟩ := respPin_rel cfg I H2 st (some h)
      rw [← h3]
      exact sendMessage_rel cfg I H3 _ h

/-- one received message: equal states, same destinations, payloads = serialisations of related messages -/
theorem step_rel (E : EvRel R ev ev') (st : St) : SRG R cfg (step cfg st ev) (step cfg st ev') := by
  unfold step
  obtain ⟨st1, m1, m1', e1, e2, H1⟩ := (handleRawMessage_rel cfg I E st).elim
  rw [e1, e2, ← E.peerAddr, ← E.peerPort]
  dsimp only
  obtain ⟨st2, m2, m2', e3, e4, H2⟩ := (handleDialog_rel cfg I H1 st1 ev.peerAddr ev.peerPort).elim
  rw [e3, e4]
  exact handleMessage_rel cfg I E H2 st2

end Lift

/-! Non-vacuity: the hypotheses `PipeRel R cfg.cm`, `R m m'`, `EvRel R ev ev'` of all theorems above are
satisfied by `Lemmas.pipeRel_respelled` (any map) with the fixtures `exMsg`/`exMsgSp`, `exResp`/`exRespSp`
(`Lemmas/SpellPipe.lean`, section Examples) and by `Lemmas.pipeRel_layout` (generated table) with
`lyRespJ`/`lyRespS`, `lyReqJ`/`lyReqS` (`Lemmas/LayoutPipe.lean`, section Examples); in all four cases the events
are really processed (one packet each). -/

end Lemmas
