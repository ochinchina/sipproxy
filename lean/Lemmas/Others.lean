/-
Lemmas.Others — what the proxy does NOT own: the header fields outside the Via / Route /
Record-Route classes, as the list of (name, printed value) pairs in message order.

`others` is a frame (`Frame`, Lemmas/Hdr.lean): the headers of the not-owned classes, each seen as name and
printed value. The three owned classes are hidden from it, and it is blind to a From / To / CSeq
being decoded in place, because those values print the text they were decoded from
(`Lemmas.Literal`). Hence every header operation of `Sip/Message.lean`, and every function of the
pipeline built from them, preserves it together with the start line and the body (`others_steps`).
-/
import Lemmas.Keeps
import Lemmas.Literal
import Lemmas.NameFixture
open GoStd Sip

namespace Lemmas

section
variable (cm : List (Bytes × Bytes))

/-- header-name classes the proxy manages -/
def owned (n : Bytes) : Bool :=
  isSameHeader cm n viaName || isSameHeader cm n routeName || isSameHeader cm n recordRouteName

def others (hs : List Header) : List (Bytes × Bytes) :=
  (hs.filter (fun h => !owned cm h.name)).map (fun h => (h.name, h.value.encode))

theorem owned_routeName : owned cm routeName = true := by simp [owned, isSameHeader_refl]

theorem others_nil : others cm [] = [] := rfl

theorem others_cons (h : Header) (hs : List Header) :
    others cm (h :: hs) = if owned cm h.name then others cm hs else (h.name, h.value.encode) :: others cm hs := by
  unfold others
  cases ho : owned cm h.name <;> simp [ho]

abbrev OthersFrame := Frame (fun x => !owned cm x) (fun h : Header => (h.name, h.value.encode))

theorem hidden_via : Hidden (fun x => !owned cm x) cm viaName := fun _ h => by simp [owned, h]
theorem hidden_route : Hidden (fun x => !owned cm x) cm routeName := fun _ h => by simp [owned, h]
theorem hidden_recordRoute : Hidden (fun x => !owned cm x) cm recordRouteName := fun _ h => by simp [owned, h]

/-- Via, Route, Record-Route are owned; From, To, CSeq print the text they were decoded from -/
theorem others_steps : Steps cm (OthersFrame cm) :=
  frame_steps _ _ cm (hidden_via cm) (hidden_route cm) (hidden_recordRoute cm)
    (fun _ _ _ _ hp => Or.inr (by simp [fromSlot, HVal.encode, parseFromTo_encode hp]))
    (fun _ _ _ _ hp => Or.inr (by simp [toSlot, HVal.encode, parseFromTo_encode hp]))
    (fun _ _ _ _ hp => Or.inr (by simp [cseqSlot, HVal.encode, parseCSeq_encode hp]))

theorem others_setFirst_via (hs : List Header) (v : HVal) :
    others cm (setFirst cm hs viaName v) = others cm hs :=
  (hidden_via cm).filter_setFirst _ _ cm hs v

theorem others_setFirst_route (hs : List Header) (v : HVal) :
    others cm (setFirst cm hs routeName v) = others cm hs :=
  (hidden_route cm).filter_setFirst _ _ cm hs v

theorem others_removeHeader_via (hs : List Header) :
    others cm (removeHeader cm hs viaName) = others cm hs :=
  congrArg (List.map _) ((hidden_via cm).filter_removeHeader _ cm hs)

theorem others_removeHeader_route (hs : List Header) :
    others cm (removeHeader cm hs routeName) = others cm hs :=
  congrArg (List.map _) ((hidden_route cm).filter_removeHeader _ cm hs)

/-! ### the round-trip hypothesis

From, To and CSeq values keep the text they were decoded from (`Lemmas.Literal`), so `RoundTrips` holds
of every header list (`roundTrips_all`). `others_getFrom`, `others_getTo`, `others_getCSeq` carry it as a
hypothesis their proofs do not use. -/

def isRaw : HVal → Bool
  | .raw _ => true
  | _ => false

/-- every still-undecoded header of `hs'` is a header of `hs` -/
def RawSub (hs' hs : List Header) : Prop := ∀ h ∈ hs', isRaw h.value = true → h ∈ hs

/-- `RoundTrips`: every still-undecoded value of the From / To class re-encodes, once decoded by
`parseFromTo`, to the string found; same for the CSeq class and `parseCSeq`. (Restricted to the
strings occurring in the message; nothing is asked of strings that do not parse.) -/
def RoundTrips (hs : List Header) : Prop :=
  ∀ h ∈ hs, ∀ s, h.value = .raw s →
    ((isSameHeader cm h.name fromName = true ∨ isSameHeader cm h.name toName = true) →
        ∀ f, parseFromTo s = some f → f.encode = s) ∧
    (isSameHeader cm h.name cseqName = true → ∀ c, parseCSeq s = some c → c.encode = s)

theorem roundTrips_all (hs : List Header) : RoundTrips cm hs :=
  fun _ _ _ _ => ⟨fun _ _ hf => parseFromTo_encode hf, fun _ _ hc => parseCSeq_encode hc⟩

/-- `m'` has the start line, the body and the not-owned headers of `m`, and decoded nothing back. -/
structure Rel (m m' : Message) : Prop where
  start : m'.start = m.start
  body : m'.body = m.body
  others : others cm m'.headers = others cm m.headers
  raws : RawSub m'.headers m.headers

theorem Rel.of_eq {m m' : Message} (h : m' = m) : Rel cm m m' := h ▸ ⟨rfl, rfl, rfl, fun _ h _ => h⟩

theorem OthersFrame.untouched {cm : List (Bytes × Bytes)} {m m' : Message} (r : OthersFrame cm m m') :
    m'.start = m.start ∧ m'.body = m.body ∧ others cm m'.headers = others cm m.headers :=
  ⟨r.start, r.body, r.headers⟩

theorem others_getVia {m m' : Message} {v : List ViaParam} (h : getVia cm m = some (v, m')) :
    m'.start = m.start ∧ m'.body = m.body ∧ others cm m'.headers = others cm m.headers :=
  OthersFrame.untouched ((others_steps cm).getVia h)

theorem others_getRoute {m m' : Message} {r : List RouteParam} (h : getRoute cm m = some (r, m')) :
    m'.start = m.start ∧ m'.body = m.body ∧ others cm m'.headers = others cm m.headers :=
  OthersFrame.untouched ((others_steps cm).getRoute h)

theorem others_getFrom {m m' : Message} {f : FromTo} (hr : RoundTrips cm m.headers)
    (h : getFrom cm m = some (f, m')) :
    m'.start = m.start ∧ m'.body = m.body ∧ others cm m'.headers = others cm m.headers :=
  have _ := hr  -- idle: `roundTrips_all`
  OthersFrame.untouched ((others_steps cm).getFrom h)

theorem others_getTo {m m' : Message} {f : FromTo} (hr : RoundTrips cm m.headers)
    (h : getTo cm m = some (f, m')) :
    m'.start = m.start ∧ m'.body = m.body ∧ others cm m'.headers = others cm m.headers :=
  have _ := hr  -- idle: `roundTrips_all`
  OthersFrame.untouched ((others_steps cm).getTo h)

theorem others_getCSeq {m m' : Message} {c : CSeq} (hr : RoundTrips cm m.headers)
    (h : getCSeq cm m = some (c, m')) :
    m'.start = m.start ∧ m'.body = m.body ∧ others cm m'.headers = others cm m.headers :=
  have _ := hr  -- idle: `roundTrips_all`
  OthersFrame.untouched ((others_steps cm).getCSeq h)

theorem others_popVia {m m' : Message} (h : popVia cm m = some m') :
    m'.start = m.start ∧ m'.body = m.body ∧ others cm m'.headers = others cm m.headers :=
  OthersFrame.untouched ((others_steps cm).popVia h)

theorem others_popRoute {m m' : Message} (h : popRoute cm m = some m') :
    m'.start = m.start ∧ m'.body = m.body ∧ others cm m'.headers = others cm m.headers :=
  OthersFrame.untouched ((others_steps cm).popRoute h)

theorem others_addVia (m : Message) (vp : ViaParam) :
    (addVia cm m vp).start = m.start ∧ (addVia cm m vp).body = m.body ∧
    others cm (addVia cm m vp).headers = others cm m.headers :=
  OthersFrame.untouched ((others_steps cm).addVia m vp)

theorem others_addRecordRoute (m : Message) (rr : RouteParam) :
    (addRecordRoute cm m rr).start = m.start ∧ (addRecordRoute cm m rr).body = m.body ∧
    others cm (addRecordRoute cm m rr).headers = others cm m.headers :=
  OthersFrame.untouched ((others_steps cm).addRecordRoute m rr)

theorem others_setReceived (m : Message) (peerAddr : Bytes) (peerPort : Int) :
    (setReceived cm m peerAddr peerPort).start = m.start ∧ (setReceived cm m peerAddr peerPort).body = m.body ∧
    others cm (setReceived cm m peerAddr peerPort).headers = others cm m.headers :=
  OthersFrame.untouched ((others_steps cm).setReceived m peerAddr peerPort)

end

/-! ### a decidable sufficient condition for `RoundTrips` -/

def roundTripsB (cm : List (Bytes × Bytes)) (hs : List Header) : Bool :=
  hs.all fun h =>
    match h.value with
    | .raw s =>
      ((!(isSameHeader cm h.name fromName || isSameHeader cm h.name toName)) ||
        (match parseFromTo s with
         | some f => f.encode == s
         | none => true)) &&
      ((!isSameHeader cm h.name cseqName) ||
        (match parseCSeq s with
         | some c => c.encode == s
         | none => true))
    | _ => true

theorem roundTrips_of_check (cm : List (Bytes × Bytes)) (hs : List Header) (h : roundTripsB cm hs = true) :
    RoundTrips cm hs :=
  have _ := h  -- idle: `roundTrips_all`
  roundTrips_all cm hs

private def exHs : List Header :=
  [ { name := str "v", value := .raw (str "SIP/2.0/UDP 192.0.2.4:5060;branch=z9hG4bKa") },
    { name := str "X-Foo", value := .raw (str "one") },
    { name := str "From", value := .raw (str "<sip:alice@a.example>;tag=1") },
    { name := str "CSeq", value := .raw (str "7 INVITE") },
    { name := str "X-Foo", value := .raw (str "two") } ]

private def exM : Message := { start := .status (str "SIP/2.0") 200 (str "OK"), headers := exHs, body := [1] }

private def exCm : List (Bytes × Bytes) := buildCompactMap [(str "Via", str "v"), (str "From", str "f")]

attribute [fixture] exHs exM exCm

/-- a message meeting `RoundTrips` whose From and CSeq do get decoded (value replaced in place) -/
example : RoundTrips exCm exM.headers ∧ (getFrom exCm exM).isSome = true ∧ (getCSeq exCm exM).isSome = true ∧
    (getFrom exCm exM).map (·.2) ≠ some exM :=
  ⟨roundTrips_all _ _, by simp only [fixture]; decide +kernel⟩

/-- a CSeq that prints as the text it replaces, owned headers that are decoded and popped, and what
is left for `others` -/
example : (∃ h, findHeader exCm exHs cseqName = some h ∧
      (HVal.cseq { seq := 7, method := str "INVITE" }).encode = h.value.encode) ∧
    (getVia exCm exM).isSome = true ∧ (popVia exCm exM).isSome = true ∧
    others exCm exHs = [(str "X-Foo", str "one"), (str "From", str "<sip:alice@a.example>;tag=1"),
                        (str "CSeq", str "7 INVITE"), (str "X-Foo", str "two")] :=
  ⟨⟨{ name := str "CSeq", value := .raw (str "7 INVITE") }, by simp only [fixture]; decide +kernel⟩,
   by simp only [fixture]; decide +kernel⟩

end Lemmas
