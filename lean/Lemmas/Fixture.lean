import Lean.Meta.Tactic.Simp.RegisterCommand

/-- Simp set for the concrete test vectors: the definitions of the sample configurations and
messages, and `Lemmas.str_eq`. `simp only [fixture]` in front of `decide +kernel` lays the vector
open and replaces `str` by its cheap twin `str'`, so that the kernel never runs the well-founded
loop inside `ByteArray.toList`. -/
register_simp_attr fixture
