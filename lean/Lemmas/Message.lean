/-
Lemmas.Message — framing laws of `Sip.parseMessage`: a renderer for well-formed messages
(`render`), the domain predicate `WF`, and `parse_render` (parse ∘ render = id, with the exact
remaining input), the size bounds used by C08, the header loop on a truncated header section (C10),
and the TCP loop `Reader.connLoop` as "parse until error" (C08, C11).
-/
import Sip.Message
import Reader.Bufio
import Reader.Frame
import Lemmas.Bytes
import Lemmas.Num
import Lemmas.Str
import Lemmas.Space
open GoStd Sip

namespace Lemmas

/-- header lines `name: value<eol>` -/
def renderHeaders (eol : Bytes) : List (Bytes × Bytes) → Bytes
  | [] => []
  | h :: hs => h.1 ++ [58, 32] ++ h.2 ++ eol ++ renderHeaders eol hs

def render (eol start : Bytes) (hs : List (Bytes × Bytes)) (body : Bytes) : Bytes :=
  start ++ eol ++ renderHeaders eol hs ++ eol ++ body

/-- the header as `parseMessage` stores it: the value still a string -/
def toHeader (h : Bytes × Bytes) : Header := ⟨h.1, .raw h.2⟩

def firstValue (cm : List (Bytes × Bytes)) (hs : List (Bytes × Bytes)) (name : Bytes) : Option Bytes :=
  (hs.find? (fun h => isSameHeader cm h.1 name)).map (·.2)

def EolOK (eol : Bytes) : Prop := eol = [13, 10] ∨ eol = [10]

structure StartOK (start : Bytes) : Prop where
  ne : start ≠ []
  cr : (13 : UInt8) ∉ start
  lf : (10 : UInt8) ∉ start
  head : ∀ b, start.head? = some b → isWhiteSpace b = false

structure HeaderOK (h : Bytes × Bytes) : Prop where
  name_colon : (58 : UInt8) ∉ h.1
  name_cr : (13 : UInt8) ∉ h.1
  name_lf : (10 : UInt8) ∉ h.1
  val_cr : (13 : UInt8) ∉ h.2
  val_lf : (10 : UInt8) ∉ h.2
  val_trim : trimSpace h.2 = h.2

/-- the domain of `parse_render` -/
structure WF (cm : List (Bytes × Bytes)) (start : Bytes) (sl : StartLine)
    (hs : List (Bytes × Bytes)) (body : Bytes) : Prop where
  start_ok : StartOK start
  start_parse : parseStartLine start = some sl
  headers_ok : ∀ h ∈ hs, HeaderOK h
  /-- the FIRST Content-Length-class header exists and declares exactly the body length -/
  content_length : firstValue cm hs contentLengthName = some (natToBytes body.length)
  body_le : body.length ≤ 9223372036854775807

theorem readLine_of_ne_nil (s : Bytes) (h : s ≠ []) :
    readLine s = (match cut 10 s with
      | none => some (s, [])
      | some (l, rest) => if l.getLast? == some 13 then some (l.dropLast, rest) else some (l, rest)) := by
  cases s with
  | nil => exact absurd rfl h
  | cons b bs => rfl

theorem readLine_lf (c rest : Bytes) (hc : (10 : UInt8) ∉ c) :
    readLine (c ++ 10 :: rest) = some (Reader.Bufio.stripEol c, rest) := by
  rw [readLine_of_ne_nil _ (by simp), cut_append_of_not_mem 10 c rest hc]
  simp only [Reader.Bufio.stripEol]
  split <;> rfl

theorem readLine_no_lf (s : Bytes) (hs : (10 : UInt8) ∉ s) (hne : s ≠ []) : readLine s = some (s, []) := by
  rw [readLine_of_ne_nil _ hne, cut_of_not_mem 10 s hs]

/-- `readLine_lf` and `readLine_no_lf` are the only two ways to get a line -/
theorem readLine_inv (s line rest : Bytes) (h : readLine s = some (line, rest)) :
    (∃ c, s = c ++ 10 :: rest ∧ (10 : UInt8) ∉ c ∧ line = Reader.Bufio.stripEol c)
    ∨ ((10 : UInt8) ∉ s ∧ s ≠ [] ∧ line = s ∧ rest = []) := by
  have hne : s ≠ [] := by rintro rfl; simp [readLine] at h
  cases hc : cut 10 s with
  | none =>
    have hs := (cut_eq_none_iff 10 s).mp hc
    rw [readLine_no_lf s hs hne] at h
    simp at h
    exact Or.inr ⟨hs, hne, h.1.symm, h.2⟩
  | some p =>
    obtain ⟨rfl, hl⟩ := cut_some 10 s p.1 p.2 hc
    rw [readLine_lf _ _ hl] at h
    simp at h
    exact Or.inl ⟨p.1, by rw [h.2], hl, h.1.symm⟩

theorem readLine_eol (eol line more : Bytes) (heol : EolOK eol)
    (hcr : (13 : UInt8) ∉ line) (hlf : (10 : UInt8) ∉ line) :
    readLine (line ++ eol ++ more) = some (line, more) := by
  rcases heol with rfl | rfl
  · have := readLine_lf (line ++ [13]) more (by simp [hlf])
    simpa [Reader.Bufio.stripEol] using this
  · have hl : line.getLast? ≠ some 13 := fun h => hcr (List.mem_of_getLast? h)
    have := readLine_lf line more hlf
    simpa [Reader.Bufio.stripEol, hl] using this

theorem trimSpace_space_cons (v : Bytes) : trimSpace (32 :: v) = trimSpace v := by
  simp [trimSpace, trimLeft, trimLeftAux, spaceTokLen, isAsciiSpace]

theorem trimSpace_natToBytes (n : Nat) : trimSpace (natToBytes n) = natToBytes n := by
  have hd := fun b hb => digit_ascii b (natToBytes_digits n b hb)
  refine trimSpace_id _ (fun b rest e => plain_of_ascii _ hd b (by simp [e])) (fun b hb => ?_)
  obtain ⟨h1, h2⟩ := hd b (List.mem_of_getLast? hb)
  exact noSpaceEnd_of_ascii b h1 h2

theorem length_le_renderHeaders (eol : Bytes) (hs : List (Bytes × Bytes)) :
    hs.length ≤ (renderHeaders eol hs).length := by
  induction hs with
  | nil => simp
  | cons h hs ih => simp [renderHeaders]; omega

theorem parseHeaderLines_cons (eol : Bytes) (heol : EolOK eol) (h : Bytes × Bytes) (hh : HeaderOK h)
    (hs : List (Bytes × Bytes)) (more : Bytes) (fuel : Nat) :
    parseHeaderLines (fuel + 1) (renderHeaders eol (h :: hs) ++ more)
      = (parseHeaderLines fuel (renderHeaders eol hs ++ more)).map
          (fun r => (toHeader h :: r.1, r.2)) := by
  have hline : renderHeaders eol (h :: hs) ++ more
      = (h.1 ++ [58, 32] ++ h.2) ++ eol ++ (renderHeaders eol hs ++ more) := by
    simp [renderHeaders]
  have hcut : cut 58 (h.1 ++ [58, 32] ++ h.2) = some (h.1, 32 :: h.2) := by
    simpa using cut_append_of_not_mem 58 h.1 (32 :: h.2) hh.name_colon
  rw [hline, parseHeaderLines, readLine_eol eol _ _ heol (by simp [hh.name_cr, hh.val_cr])
    (by simp [hh.name_lf, hh.val_lf])]
  simp only [hcut, trimSpace_space_cons, hh.val_trim, toHeader]
  cases parseHeaderLines fuel (renderHeaders eol hs ++ more) <;> simp

theorem parseHeaderLines_render (eol : Bytes) (heol : EolOK eol) (hs : List (Bytes × Bytes))
    (hok : ∀ h ∈ hs, HeaderOK h) (more : Bytes) (fuel : Nat) (hf : hs.length < fuel) :
    parseHeaderLines fuel (renderHeaders eol hs ++ eol ++ more) = some (hs.map toHeader, more) := by
  obtain ⟨f, rfl⟩ : ∃ f, fuel = f + 1 := ⟨fuel - 1, by omega⟩
  induction hs generalizing f with
  | nil =>
    have := readLine_eol eol [] more heol (by simp) (by simp)
    simp only [List.nil_append] at this
    simp [parseHeaderLines, renderHeaders, this]
  | cons h hs ih =>
    obtain ⟨f, rfl⟩ : ∃ g, f = g + 1 := ⟨f - 1, by simp at hf; omega⟩
    obtain ⟨hh, hok⟩ := List.forall_mem_cons.mp hok
    rw [List.append_assoc, parseHeaderLines_cons eol heol h hh, ← List.append_assoc,
      ih hok f (by simp at hf; omega)]
    rfl

theorem getRawHeader_map (cm : List (Bytes × Bytes)) (sl : StartLine) (hs : List (Bytes × Bytes))
    (body name : Bytes) :
    getRawHeader cm ⟨sl, hs.map toHeader, body⟩ name = firstValue cm hs name := by
  simp only [getRawHeader, findHeader, firstValue, List.find?_map, Function.comp_def, toHeader]
  cases List.find? (fun h => isSameHeader cm h.1 name) hs <;> rfl

theorem getHeaderInt_map (cm : List (Bytes × Bytes)) (sl : StartLine) (hs : List (Bytes × Bytes))
    (body name : Bytes) :
    getHeaderInt cm ⟨sl, hs.map toHeader, body⟩ name = (firstValue cm hs name).bind atoi := by
  simp only [getHeaderInt, getRawHeader_map]
  cases firstValue cm hs name <;> rfl

theorem skipWhiteSpace_append (ws s : Bytes) (hws : ∀ b ∈ ws, isWhiteSpace b = true) :
    skipWhiteSpace (ws ++ s) = skipWhiteSpace s :=
  List.dropWhile_append_of_pos hws

theorem skipWhiteSpace_start (start more : Bytes) (h : StartOK start) :
    skipWhiteSpace (start ++ more) = start ++ more := by
  cases start with
  | nil => exact absurd rfl h.ne
  | cons b bs =>
    have hb := h.head b rfl
    simp [skipWhiteSpace, hb]

/-- leading white space is invisible -/
theorem parseMessage_skip (cm : List (Bytes × Bytes)) (ws s : Bytes)
    (hws : ∀ b ∈ ws, isWhiteSpace b = true) : parseMessage cm (ws ++ s) = parseMessage cm s := by
  unfold parseMessage
  rw [skipWhiteSpace_append ws s hws]

/-- behind a clean start line everything is decided by the header loop -/
theorem parseMessage_start (cm : List (Bytes × Bytes)) (eol start : Bytes) (heol : EolOK eol)
    (hst : StartOK start) (tail : Bytes) :
    parseMessage cm (start ++ eol ++ tail) =
      (match parseStartLine start with
       | none => .error
       | some sl =>
         match parseHeaderLines (tail.length + 1) tail with
         | none => .error
         | some (hs, rest') =>
           match getHeaderInt cm ⟨sl, hs, []⟩ contentLengthName with
           | none => .error
           | some cl =>
             if cl < 0 then .error
             else if rest'.length < cl.toNat then .error
             else .ok ⟨sl, hs, rest'.take cl.toNat⟩ (rest'.drop cl.toNat)) := by
  have hlen : ¬ start.length = 0 := by simpa using hst.ne
  unfold parseMessage
  simp only [List.append_assoc start, skipWhiteSpace_start _ _ hst]
  simp only [← List.append_assoc start, readLine_eol eol start _ heol hst.cr hst.lf, hlen, ↓reduceIte]
  rfl

/-- What `parseMessage` computes on `start line ++ rendered headers ++ blank line ++ tail`: everything
is decided by the start line, the first Content-Length-class header and the number of bytes after the
blank line. -/
theorem parseMessage_render_gen (cm : List (Bytes × Bytes)) (eol start : Bytes)
    (hs : List (Bytes × Bytes)) (heol : EolOK eol) (hst : StartOK start)
    (hhs : ∀ h ∈ hs, HeaderOK h) (tail : Bytes) :
    parseMessage cm (start ++ eol ++ renderHeaders eol hs ++ eol ++ tail) =
      (match parseStartLine start with
       | none => .error
       | some sl =>
         match (firstValue cm hs contentLengthName).bind atoi with
         | none => .error
         | some cl =>
           if cl < 0 then .error
           else if tail.length < cl.toNat then .error
           else .ok ⟨sl, hs.map toHeader, tail.take cl.toNat⟩ (tail.drop cl.toNat)) := by
  have hfuel : hs.length < (renderHeaders eol hs ++ eol ++ tail).length + 1 := by
    have := length_le_renderHeaders eol hs
    simp only [List.length_append]; omega
  rw [List.append_assoc (start ++ eol), List.append_assoc (start ++ eol),
    parseMessage_start cm eol start heol hst, parseHeaderLines_render eol heol hs hhs tail _ hfuel]
  simp only [getHeaderInt_map]

theorem parse_render (cm : List (Bytes × Bytes)) (eol start : Bytes) (sl : StartLine)
    (hs : List (Bytes × Bytes)) (body : Bytes) (heol : EolOK eol) (h : WF cm start sl hs body)
    (rest : Bytes) :
    parseMessage cm (render eol start hs body ++ rest)
      = .ok { start := sl, headers := hs.map (fun h => ⟨h.1, .raw h.2⟩), body := body } rest := by
  have hshape : render eol start hs body ++ rest
      = start ++ eol ++ renderHeaders eol hs ++ eol ++ (body ++ rest) := by
    simp [render, List.append_assoc]
  rw [hshape, parseMessage_render_gen cm eol start hs heol h.start_ok h.headers_ok, h.start_parse,
    h.content_length]
  simp only [Option.bind_some, atoi_natToBytes _ h.body_le]
  have h1 : ¬ ((Int.ofNat body.length) < 0) := Int.not_lt.mpr (Int.natCast_nonneg _)
  have h2 : ¬ ((body ++ rest).length < (Int.ofNat body.length).toNat) := by simp
  simp only [h1, h2, ↓reduceIte]
  simp [toHeader]

theorem parse_render_ws (cm : List (Bytes × Bytes)) (eol start : Bytes) (sl : StartLine)
    (hs : List (Bytes × Bytes)) (body : Bytes) (heol : EolOK eol) (h : WF cm start sl hs body)
    (ws rest : Bytes) (hws : ∀ b ∈ ws, isWhiteSpace b = true) :
    parseMessage cm (ws ++ (render eol start hs body ++ rest))
      = .ok ⟨sl, hs.map toHeader, body⟩ rest := by
  rw [parseMessage_skip cm ws _ hws]
  exact parse_render cm eol start sl hs body heol h rest

def keepAlives (k : Nat) : Bytes := (List.replicate k crlf).flatten

theorem keepAlives_white (k : Nat) : ∀ b ∈ keepAlives k, isWhiteSpace b = true := by
  intro b hb
  simp only [keepAlives, List.mem_flatten, List.mem_replicate] at hb
  obtain ⟨l, ⟨_, rfl⟩, hb⟩ := hb
  simp only [crlf, List.mem_cons, List.not_mem_nil, or_false] at hb
  rcases hb with rfl | rfl <;> decide

/-! ### what the proxy itself writes (`Message.bytes`) is a rendered message -/

def startLineBytes : StartLine → Bytes
  | .request method uri version => method ++ [32] ++ uri.encode ++ [32] ++ version
  | .status version code reason => version ++ [32] ++ itoa code ++ [32] ++ reason

theorem encodeFirstLine_eq (sl : StartLine) : encodeFirstLine sl = startLineBytes sl ++ crlf := by
  cases sl <;> simp [encodeFirstLine, startLineBytes]

/-- the headers `Bytes()` writes from the list: all but the Content-Length class, values encoded -/
def keptHeaders (cm : List (Bytes × Bytes)) (hs : List Header) : List (Bytes × Bytes) :=
  (hs.filter (fun h => !isSameHeader cm h.name contentLengthName)).map
    (fun h => (h.name, h.value.encode))

/-- … followed by one freshly computed Content-Length -/
def wireHeaders (cm : List (Bytes × Bytes)) (m : Message) : List (Bytes × Bytes) :=
  keptHeaders cm m.headers ++ [(contentLengthName, natToBytes m.body.length)]

theorem renderHeaders_append (eol : Bytes) (a b : List (Bytes × Bytes)) :
    renderHeaders eol (a ++ b) = renderHeaders eol a ++ renderHeaders eol b := by
  induction a with
  | nil => rfl
  | cons h hs ih => simp [renderHeaders, ih, List.append_assoc]

theorem encodeHeaders_render (cm : List (Bytes × Bytes)) (hs : List Header) :
    encodeHeaders cm hs = renderHeaders crlf (keptHeaders cm hs) := by
  induction hs with
  | nil => rfl
  | cons h hs ih =>
    by_cases hc : isSameHeader cm h.name contentLengthName = true
    · simp only [encodeHeaders, hc, ↓reduceIte, List.nil_append, ih]
      simp [keptHeaders, hc]
    · simp only [encodeHeaders, hc, ih]
      simp [keptHeaders, hc, renderHeaders, List.append_assoc]

theorem bytes_eq_render (cm : List (Bytes × Bytes)) (m : Message) :
    m.bytes cm = render crlf (startLineBytes m.start) (wireHeaders cm m) m.body := by
  simp [Message.bytes, render, wireHeaders, encodeFirstLine_eq, encodeHeaders_render,
    renderHeaders_append, renderHeaders, List.append_assoc]

theorem isSameHeader_self (cm : List (Bytes × Bytes)) (n : Bytes) : isSameHeader cm n n = true := by
  simp [isSameHeader, equalFold]

theorem firstValue_cons_self (cm : List (Bytes × Bytes)) (n v : Bytes) (hs : List (Bytes × Bytes)) :
    firstValue cm ((n, v) :: hs) n = some v := by
  simp [firstValue, isSameHeader_self]

theorem firstValue_wireHeaders (cm : List (Bytes × Bytes)) (m : Message) :
    firstValue cm (wireHeaders cm m) contentLengthName = some (natToBytes m.body.length) := by
  have hnone : (keptHeaders cm m.headers).find? (fun h => isSameHeader cm h.1 contentLengthName)
      = none := by
    rw [List.find?_eq_none]
    intro x hx
    simp only [keptHeaders, List.mem_map, List.mem_filter] at hx
    obtain ⟨h, ⟨_, hh⟩, rfl⟩ := hx
    simpa using hh
  simp [firstValue, wireHeaders, List.find?_append, hnone, isSameHeader_self]

theorem contentLengthName_eq :
    contentLengthName = [67, 111, 110, 116, 101, 110, 116, 45, 76, 101, 110, 103, 116, 104] := by decide +kernel

theorem contentLength_headerOK (n : Nat) : HeaderOK (contentLengthName, natToBytes n) := by
  have hd := natToBytes_digits n
  refine ⟨?_, ?_, ?_, fun hm => ?_, fun hm => ?_, trimSpace_natToBytes n⟩
  · simp [contentLengthName_eq]
  · simp [contentLengthName_eq]
  · simp [contentLengthName_eq]
  · exact absurd (hd 13 hm).1 (by decide)
  · exact absurd (hd 10 hm).1 (by decide)

/-- The proxy's own output is framed exactly: parsing `m.Bytes()` (followed by anything) gives
back the start line, the written headers in order, the body, and leaves what followed untouched —
provided the first line is a start line (parses back, no CR/LF, no leading blank), the headers
it writes are clean lines and the body length fits an int64. -/
theorem parse_bytes (cm : List (Bytes × Bytes)) (m : Message)
    (hst : StartOK (startLineBytes m.start))
    (hparse : parseStartLine (startLineBytes m.start) = some m.start)
    (hhs : ∀ h ∈ keptHeaders cm m.headers, HeaderOK h)
    (hbody : m.body.length ≤ 9223372036854775807) (rest : Bytes) :
    parseMessage cm (m.bytes cm ++ rest)
      = .ok ⟨m.start, (wireHeaders cm m).map toHeader, m.body⟩ rest := by
  rw [bytes_eq_render]
  refine parse_render cm crlf _ m.start _ m.body (Or.inl rfl) ⟨hst, hparse, ?_,
    firstValue_wireHeaders cm m, hbody⟩ rest
  intro h hh
  simp only [wireHeaders, List.mem_append, List.mem_singleton] at hh
  rcases hh with hh | rfl
  · exact hhs h hh
  · exact contentLength_headerOK _

/-- `SIP/2.0 200 OK` with the single header `Content-Length: 2` and body `hi`, for EVERY compact
table (the literal name is in its own class whatever the table says). -/
theorem wf_example_status (cm : List (Bytes × Bytes)) :
    WF cm [83, 73, 80, 47, 50, 46, 48, 32, 50, 48, 48, 32, 79, 75]
      (.status [83, 73, 80, 47, 50, 46, 48] 200 [79, 75])
      [(contentLengthName, [50])] [104, 105] where
  start_ok := ⟨by simp, by simp, by simp, fun b hb => by cases hb; decide⟩
  start_parse := by simp only [parseStartLine, fixture]; decide +kernel
  headers_ok := fun _ hh => List.mem_singleton.mp hh ▸ contentLength_headerOK 2
  content_length := firstValue_cons_self cm _ _ _
  body_le := by decide

/-- the header `Via: x` of the two examples below -/
theorem viaX_headerOK : HeaderOK ([86, 105, 97], [120]) :=
  ⟨by simp, by simp, by simp, by simp, by simp, by decide +kernel⟩

/-- a request with two headers (`Via: x`, `Content-Length: 0`), empty compact table, empty body -/
theorem wf_example_request :
    WF [] [79, 32, 116, 58, 49, 32, 83] (.request [79] (.abs [116, 58, 49]) [83])
      [([86, 105, 97], [120]), (contentLengthName, [48])] [] where
  start_ok := ⟨by simp, by simp, by simp, fun b hb => by cases hb; decide⟩
  start_parse := by simp only [parseStartLine, fixture]; decide +kernel
  headers_ok := by simpa using ⟨viaX_headerOK, contentLength_headerOK 0⟩
  content_length := by rw [contentLengthName_eq]; decide +kernel
  body_le := by decide

/-- `parse_render` on the first example, any compact table, CRLF and bare-LF line ends, with three
bytes of the next message behind it -/
example (cm : List (Bytes × Bytes)) :
    parseMessage cm (render [13, 10] [83, 73, 80, 47, 50, 46, 48, 32, 50, 48, 48, 32, 79, 75]
        [(contentLengthName, [50])] [104, 105] ++ [73, 78, 86])
      = .ok ⟨.status [83, 73, 80, 47, 50, 46, 48] 200 [79, 75],
             [⟨contentLengthName, .raw [50]⟩], [104, 105]⟩ [73, 78, 86] :=
  parse_render cm _ _ _ _ _ (Or.inl rfl) (wf_example_status cm) _

example (cm : List (Bytes × Bytes)) :
    parseMessage cm (keepAlives 3 ++ (render [10] [83, 73, 80, 47, 50, 46, 48, 32, 50, 48, 48, 32, 79, 75]
        [(contentLengthName, [50])] [104, 105] ++ [73, 78, 86]))
      = .ok ⟨.status [83, 73, 80, 47, 50, 46, 48] 200 [79, 75],
             [⟨contentLengthName, .raw [50]⟩], [104, 105]⟩ [73, 78, 86] :=
  parse_render_ws cm _ _ _ _ _ (Or.inr rfl) (wf_example_status cm) _ _ (keepAlives_white 3)

/-- `trimSpace_id`: inner blanks are fine, only the two ends matter -/
example : trimSpace [97, 32, 98] = [97, 32, 98] :=
  trimSpace_id _ (fun b rest e => by cases e; decide) (by decide)

example : readLine ([86, 105, 97] ++ [13, 10] ++ [120]) = some ([86, 105, 97], [120]) :=
  readLine_eol _ _ _ (Or.inl rfl) (by decide) (by decide)

/-- `parse_bytes` applies: a 200 response holding `Via: x` and a stale `Content-Length: 99`; the
encoder drops the stale header, writes `Content-Length: 2`, and the parser reads exactly that -/
example : let m : Message :=
      ⟨.status [83, 73, 80, 47, 50, 46, 48] 200 [79, 75],
       [⟨[86, 105, 97], .raw [120]⟩, ⟨contentLengthName, .raw [57, 57]⟩], [104, 105]⟩
    parseMessage [] (m.bytes [] ++ [1, 2, 3])
      = .ok ⟨m.start, [⟨[86, 105, 97], .raw [120]⟩, ⟨contentLengthName, .raw [50]⟩], m.body⟩ [1, 2, 3] := by
  intro m
  have hk : keptHeaders [] m.headers = [([86, 105, 97], [120])] := by
    simp only [m, keptHeaders, contentLengthName_eq]; decide +kernel
  have hs : startLineBytes m.start = [83, 73, 80, 47, 50, 46, 48, 32, 50, 48, 48, 32, 79, 75] := by
    decide +kernel
  have hw := wf_example_status []
  rw [parse_bytes [] m (hs ▸ hw.start_ok) (by rw [hs]; exact hw.start_parse)
    (by rw [hk]; simpa using viaX_headerOK)
    (by decide) [1, 2, 3]]
  have h2 : natToBytes 2 = [50] := by decide
  simp [wireHeaders, hk, toHeader, m, h2]

/-! ### size bounds (C08) -/

theorem skipWhiteSpace_length (s : Bytes) : (skipWhiteSpace s).length ≤ s.length :=
  (List.dropWhile_sublist _).length_le

theorem readLine_length (s line rest : Bytes) (h : readLine s = some (line, rest)) :
    line.length + rest.length ≤ s.length ∧ rest.length < s.length := by
  rcases readLine_inv s line rest h with ⟨c, rfl, _, rfl⟩ | ⟨_, hne, rfl, rfl⟩
  · have : (Reader.Bufio.stripEol c).length ≤ c.length := by
      unfold Reader.Bufio.stripEol; split <;> simp
    simp; omega
  · simpa using List.length_pos_iff.mpr hne

/-- every header line (and the blank line) consumes at least one byte -/
theorem parseHeaderLines_length (fuel : Nat) (s : Bytes) (hs : List Header) (rest : Bytes)
    (h : parseHeaderLines fuel s = some (hs, rest)) : hs.length + rest.length < s.length := by
  induction fuel generalizing s hs with
  | zero => simp [parseHeaderLines] at h
  | succ f ih =>
    rw [parseHeaderLines] at h
    split at h
    · cases h
    · rename_i line rest1 hr
      have hl := readLine_length s line rest1 hr
      split at h
      · cases h; simpa using hl.2
      · split at h
        · cases h
        · split at h
          · cases h
          · rename_i hs' rest' hp
            cases h
            have := ih rest1 hs' hp
            simp only [List.length_cons]; omega

/-- what a successful parse can hold: headers, body and unconsumed input together are smaller than
the input (one byte per header line at least, one for the start line, one for the blank line) -/
theorem parseMessage_size (cm : List (Bytes × Bytes)) (input : Bytes) (m : Message) (rest : Bytes)
    (h : parseMessage cm input = .ok m rest) :
    m.headers.length + m.body.length + rest.length + 2 ≤ input.length := by
  have hskip := skipWhiteSpace_length input
  unfold parseMessage at h
  simp only at h
  -- `h` is taken apart match by match; all that is kept is what each stage consumed
  split at h
  · cases h
  · rename_i first rest1 hr
    have hl := readLine_length _ first rest1 hr
    split at h
    · cases h
    · split at h
      · cases h
      · split at h
        · cases h
        · rename_i hs rest' hp
          have hh := parseHeaderLines_length _ rest1 hs rest' hp
          split at h
          · cases h
          · split at h
            · cases h
            · split at h
              · cases h
              · cases h
                simp only [List.length_take, List.length_drop]
                omega

/-! ### truncated input (C10) -/

theorem parseHeaderLines_nil (fuel : Nat) : parseHeaderLines fuel [] = none := by
  cases fuel <;> simp [parseHeaderLines, readLine]

theorem parseHeaderLines_no_lf (fuel : Nat) (s : Bytes) (h : (10 : UInt8) ∉ s) :
    parseHeaderLines fuel s = none := by
  cases fuel with
  | zero => rfl
  | succ f =>
    by_cases hne : s = []
    · rw [hne]; exact parseHeaderLines_nil _
    · have hlen : ¬ s.length = 0 := by simpa using hne
      simp only [parseHeaderLines, readLine_no_lf s h hne, hlen, ↓reduceIte, parseHeaderLines_nil]
      cases cut 58 s <;> rfl

theorem parseMessage_no_lf_skip (cm : List (Bytes × Bytes)) (s : Bytes)
    (hs : (10 : UInt8) ∉ skipWhiteSpace s) : parseMessage cm s = .error := by
  unfold parseMessage
  simp only
  cases hsk : skipWhiteSpace s with
  | nil => simp [readLine]
  | cons x xs =>
    rw [hsk] at hs
    simp only [readLine_no_lf _ hs (by simp), List.length_cons, Nat.add_eq_zero_iff,
      Nat.succ_ne_self, and_false, ↓reduceIte, List.length_nil, Nat.zero_add, parseHeaderLines_nil]
    cases parseStartLine (x :: xs) <;> rfl

theorem parseHeaderLines_truncated (eol : Bytes) (heol : EolOK eol) (hs : List (Bytes × Bytes))
    (hok : ∀ h ∈ hs, HeaderOK h) (part : Bytes) (hpart : (10 : UInt8) ∉ part) (fuel : Nat) :
    parseHeaderLines fuel (renderHeaders eol hs ++ part) = none := by
  induction hs generalizing fuel with
  | nil => simpa [renderHeaders] using parseHeaderLines_no_lf fuel part hpart
  | cons h hs ih =>
    obtain ⟨hh, hok⟩ := List.forall_mem_cons.mp hok
    cases fuel with
    | zero => rfl
    | succ f =>
      rw [parseHeaderLines_cons eol heol h hh, ih hok]
      rfl

theorem not_mem_take_line (x eol : Bytes) (heol : EolOK eol) (hx : (10 : UInt8) ∉ x) (n : Nat)
    (hn : n < (x ++ eol).length) : (10 : UInt8) ∉ (x ++ eol).take n := by
  -- the LF is the last byte, and a strict prefix lies within all but the last
  have hd : (10 : UInt8) ∉ (x ++ eol).dropLast := by rcases heol with rfl | rfl <;> simp [hx]
  exact fun hm => hd ((List.prefix_of_prefix_length_le (List.take_prefix n _) (List.dropLast_prefix _)
    (by rw [List.length_take, List.length_dropLast]; omega)).subset hm)

/-- a strict truncation of a rendered header section (blank line included), whatever followed it, is some
of its header lines, complete, and then what is left of the line the cut fell into: a fragment without LF -/
theorem take_renderHeaders (eol : Bytes) (heol : EolOK eol) (hs : List (Bytes × Bytes))
    (hok : ∀ h ∈ hs, HeaderOK h) (body : Bytes) (n : Nat)
    (hn : n < (renderHeaders eol hs ++ eol).length) :
    ∃ hs' part, (renderHeaders eol hs ++ eol ++ body).take n = renderHeaders eol hs' ++ part
      ∧ hs' ⊆ hs ∧ (10 : UInt8) ∉ part := by
  induction hs generalizing n with
  | nil =>
    simp only [renderHeaders, List.nil_append] at hn ⊢
    refine ⟨[], eol.take n, ?_, List.nil_subset _, ?_⟩
    · rw [List.take_append_of_le_length (by omega)]; rfl
    · simpa using not_mem_take_line [] eol heol (by simp) n (by simpa using hn)
  | cons h hs ih =>
    obtain ⟨hh, hok⟩ := List.forall_mem_cons.mp hok
    -- the first line is `l ++ eol`, whatever headers follow
    have hl : ∀ t, renderHeaders eol (h :: t) = (h.1 ++ [58, 32] ++ h.2) ++ eol ++ renderHeaders eol t :=
      fun _ => rfl
    have hl10 : (10 : UInt8) ∉ h.1 ++ [58, 32] ++ h.2 := by simp [hh.name_lf, hh.val_lf]
    generalize h.1 ++ [58, 32] ++ h.2 = l at hl hl10
    rw [hl] at hn ⊢
    rw [List.append_assoc (l ++ eol), List.append_assoc (l ++ eol), List.take_append]
    rw [List.append_assoc (l ++ eol), List.length_append] at hn
    by_cases hlt : n < (l ++ eol).length
    · refine ⟨[], (l ++ eol).take n, ?_, List.nil_subset _, not_mem_take_line l eol heol hl10 n hlt⟩
      rw [Nat.sub_eq_zero_of_le (Nat.le_of_lt hlt), List.take_zero, List.append_nil]
      rfl
    · obtain ⟨hs', part, he, hsub, hp⟩ := ih hok (n - (l ++ eol).length) (by omega)
      refine ⟨h :: hs', part, ?_, List.cons_subset_cons h hsub, hp⟩
      rw [List.take_of_length_le (by omega), he, ← List.append_assoc, hl]

/-! ### the TCP connection loop without its fuel: `connLoop` is "parse until error", and its output is bounded by its input -/

section Loop
open Reader

theorem parseMessage_progress (cm : List (Bytes × Bytes)) (input : Bytes) (m : Message) (rest : Bytes)
    (h : parseMessage cm input = .ok m rest) : rest.length < input.length := by
  have := parseMessage_size cm input m rest h
  omega

theorem parseMessage_white (cm : List (Bytes × Bytes)) (s : Bytes)
    (h : ∀ b ∈ s, isWhiteSpace b = true) : parseMessage cm s = .error := by
  rw [← List.append_nil s, parseMessage_skip cm s [] h]
  rfl

/-- the `else [m]` branch of `connLoopAux` (no progress) is dead code -/
theorem connLoopAux_succ (cm : List (Bytes × Bytes)) (fuel : Nat) (s : Bytes) :
    connLoopAux cm (fuel + 1) s =
      match parseMessage cm s with
      | .error => []
      | .ok m rest => m :: connLoopAux cm fuel rest := by
  simp only [connLoopAux]
  cases hp : parseMessage cm s with
  | error => rfl
  | ok m rest => simp [parseMessage_progress cm s m rest hp]

theorem connLoopAux_fuel (cm : List (Bytes × Bytes)) (f1 f2 : Nat) (s : Bytes)
    (h1 : s.length < f1) (h2 : s.length < f2) : connLoopAux cm f1 s = connLoopAux cm f2 s := by
  induction f1 generalizing f2 s with
  | zero => omega
  | succ f1 ih =>
    obtain ⟨f2, rfl⟩ : ∃ f, f2 = f + 1 := ⟨f2 - 1, by omega⟩
    rw [connLoopAux_succ, connLoopAux_succ]
    cases hp : parseMessage cm s with
    | error => rfl
    | ok m rest =>
      have := parseMessage_progress cm s m rest hp
      simp only
      rw [ih f2 rest (by omega) (by omega)]

theorem connLoop_ok (cm : List (Bytes × Bytes)) (s : Bytes) (m : Message) (rest : Bytes)
    (h : parseMessage cm s = .ok m rest) : connLoop cm s = m :: connLoop cm rest := by
  have hlt := parseMessage_progress cm s m rest h
  show connLoopAux cm (s.length + 1) s = m :: connLoopAux cm (rest.length + 1) rest
  rw [connLoopAux_succ, h]
  simp only
  rw [connLoopAux_fuel cm s.length (rest.length + 1) rest hlt (by omega)]

theorem connLoop_error (cm : List (Bytes × Bytes)) (s : Bytes)
    (h : parseMessage cm s = .error) : connLoop cm s = [] := by
  simp only [connLoop, connLoopAux_succ, h]

/-- at most one message per two bytes of stream; headers and bodies held together never exceed the
stream -/
theorem connLoopAux_bounded (cm : List (Bytes × Bytes)) (fuel : Nat) (s : Bytes) :
    2 * (connLoopAux cm fuel s).length
      + ((connLoopAux cm fuel s).map (fun m => m.headers.length + m.body.length)).sum ≤ s.length := by
  induction fuel generalizing s with
  | zero => simp [connLoopAux]
  | succ f ih =>
    rw [connLoopAux_succ]
    cases hp : parseMessage cm s with
    | error => simp
    | ok m rest =>
      have h1 := parseMessage_size cm s m rest hp
      have h2 := ih rest
      simp only [List.length_cons, List.map_cons, List.sum_cons]
      omega

example (cm : List (Bytes × Bytes)) : connLoop cm (keepAlives 2) = [] :=
  connLoop_error cm _ (parseMessage_white cm _ (keepAlives_white 2))

/-- one message, then a keep-alive: the loop emits it and stops at the end of the stream -/
example (cm : List (Bytes × Bytes)) :
    connLoop cm (render [13, 10] [83, 73, 80, 47, 50, 46, 48, 32, 50, 48, 48, 32, 79, 75]
        [(contentLengthName, [50])] [104, 105] ++ keepAlives 1)
      = [⟨.status [83, 73, 80, 47, 50, 46, 48] 200 [79, 75],
          [⟨contentLengthName, .raw [50]⟩], [104, 105]⟩] := by
  rw [connLoop_ok cm _ _ _ (parse_render cm _ _ _ _ _ (Or.inl rfl) (wf_example_status cm) _),
    connLoop_error cm _ (parseMessage_white cm _ (keepAlives_white 1))]
  rfl

end Loop

end Lemmas
