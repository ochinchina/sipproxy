/-
Lemmas.Relay — closed forms of the sending functions `sendMessage`, `sendToBackend` of
`Proxy/Model.lean` and of `findBackendByDialog`, with the tuple-lets projected away; each sends at most
one output (`entrySend_length`, `sendMessage_length`, `sendToBackend_length`); the pin-list laws
(`pinGet` of `pinAdd` / `pinDel`); the `data` carried by an output (`outData`).
-/
import Proxy.Model
import Lemmas.Keyed
open GoStd Sip Proxy

namespace Lemmas

def outData : Out → Bytes
  | .backend _ d => d
  | .udp _ _ d => d
  | .conn _ d => d
  | .tcp _ _ d => d

theorem entrySend_length (e : TransEntry) (data : Bytes) : (entrySend e data).length ≤ 1 := by
  unfold entrySend
  split
  · simp
  · simp
  · split
    · split <;> simp
    · simp

/-- the message `sendMessage` prints: the input after the lazy CSeq / Via decoding of
`getClientTransaction` -/
def sentMessage (cfg : Cfg) (m : Message) : Message := (getClientTransaction cfg.cm m).2

def sendLookup (cfg : Cfg) (st : St) (h : Hop) (m : Message) :=
  getTransport cfg st.trans h.transport ((getIp cfg h.host).getD h.host) h.port
    ((getClientTransaction cfg.cm m).1.getD [])

theorem sendMessage_out (cfg : Cfg) (st : St) (h : Hop) (m : Message) :
    (sendMessage cfg st h m).2 =
      match sendLookup cfg st h m with
      | none => []
      | some (_, _, e) => entrySend e ((sentMessage cfg m).bytes cfg.cm) := by
  unfold sendMessage sendLookup sentMessage
  rcases getClientTransaction cfg.cm m with ⟨tid, m1⟩
  simp only []
  rcases getTransport cfg st.trans h.transport ((getIp cfg h.host).getD h.host) h.port (tid.getD []) with
    _ | ⟨tr1, k, e⟩ <;> rfl

theorem sendMessage_length (cfg : Cfg) (st : St) (h : Hop) (m : Message) :
    (sendMessage cfg st h m).2.length ≤ 1 := by
  rw [sendMessage_out]
  split
  · simp
  · exact entrySend_length _ _

/-- `sendMessage` touches nothing but the transport table. -/
theorem sendMessage_state (cfg : Cfg) (st : St) (h : Hop) (m : Message) :
    (sendMessage cfg st h m).1.pins = st.pins ∧ (sendMessage cfg st h m).1.rr = st.rr ∧
    (sendMessage cfg st h m).1.backends = st.backends ∧ (sendMessage cfg st h m).1.learned = st.learned := by
  unfold sendMessage
  simp only []
  split <;> simp

/-- the backend object `sendToBackend` uses: the pinned one, else the rotation -/
def sbBackend (cfg : Cfg) (st : St) (m : Message) : BackendRef :=
  (findBackendByDialog cfg st m).1.getD .rotation

/-- `backend.Send`: a pinned member is used as it is, the rotation dispatches -/
def sbPick (rr : Side.RR.St) : BackendRef → Side.RR.St × Option Bytes
  | .member a => (rr, some a)
  | .rotation => Side.RR.dispatch rr

def sbMessage (cfg : Cfg) (st : St) (m : Message) (t0 : Listener) (branch : Bytes) : Message :=
  insertSelf cfg (findBackendByDialog cfg st m).2.2 t0 branch

theorem sendToBackend_none (cfg : Cfg) (st : St) (m : Message) (br : Bytes) (h0 : cfg.transports0 = none) :
    sendToBackend cfg st m br = (st, []) := by
  unfold sendToBackend
  rw [h0]

/-- `sendToBackend` in closed form, once a listener towards the backends exists: the backend object
picks a target; with none nothing is sent and only the dialog lookup has touched the pins; with one,
the message is printed with the proxy's own entries and its transaction recorded against the
backend object used. -/
theorem sendToBackend_eq (cfg : Cfg) (st : St) (m : Message) (br : Bytes) (t0 : Listener)
    (h0 : cfg.transports0 = some t0) :
    sendToBackend cfg st m br =
      match (sbPick st.rr (sbBackend cfg st m)).2 with
      | none => ({ st with pins := (findBackendByDialog cfg st m).2.1, rr := (sbPick st.rr (sbBackend cfg st m)).1 }, [])
      | some a =>
        ({ st with
            pins := match (getClientTransaction cfg.cm (sbMessage cfg st m t0 br)).1 with
              | some k => pinAdd (findBackendByDialog cfg st m).2.1 k (sbBackend cfg st m)
                            (getExpires cfg.cm (getClientTransaction cfg.cm (sbMessage cfg st m t0 br)).2 0)
              | none => (findBackendByDialog cfg st m).2.1,
            rr := (sbPick st.rr (sbBackend cfg st m)).1 },
         [.backend a ((sbMessage cfg st m t0 br).bytes cfg.cm)]) := by
  unfold sendToBackend sbBackend sbMessage
  rw [h0]
  simp only []
  rcases findBackendByDialog cfg st m with ⟨pinned, pins1, m1⟩
  simp only []
  rcases getClientTransaction cfg.cm (insertSelf cfg m1 t0 br) with ⟨tid, m3⟩
  cases pinned.getD BackendRef.rotation with
  | member a => cases tid <;> rfl
  | rotation =>
    simp only [sbPick]
    rcases Side.RR.dispatch st.rr with ⟨rr1, _ | a⟩ <;> cases tid <;> rfl

theorem sendToBackend_out (cfg : Cfg) (st : St) (m : Message) (br : Bytes) (t0 : Listener)
    (h0 : cfg.transports0 = some t0) :
    (sendToBackend cfg st m br).2 =
      match (sbPick st.rr (sbBackend cfg st m)).2 with
      | none => []
      | some a => [.backend a ((sbMessage cfg st m t0 br).bytes cfg.cm)] := by
  rw [sendToBackend_eq cfg st m br t0 h0]
  split <;> rfl

theorem sendToBackend_rr (cfg : Cfg) (st : St) (m : Message) (br : Bytes) (t0 : Listener)
    (h0 : cfg.transports0 = some t0) :
    (sendToBackend cfg st m br).1.rr = (sbPick st.rr (sbBackend cfg st m)).1 := by
  rw [sendToBackend_eq cfg st m br t0 h0]
  split <;> rfl

/-- the pin list after `sendToBackend`: what `findBackendByDialog` left, plus (when something was
sent and the message has a transaction key) the transaction recorded against the backend used -/
theorem sendToBackend_pins (cfg : Cfg) (st : St) (m : Message) (br : Bytes) (t0 : Listener)
    (h0 : cfg.transports0 = some t0) :
    (sendToBackend cfg st m br).1.pins =
      match (sbPick st.rr (sbBackend cfg st m)).2 with
      | none => (findBackendByDialog cfg st m).2.1
      | some _ =>
        match (getClientTransaction cfg.cm (sbMessage cfg st m t0 br)).1 with
        | some k => pinAdd (findBackendByDialog cfg st m).2.1 k (sbBackend cfg st m)
                      (getExpires cfg.cm (getClientTransaction cfg.cm (sbMessage cfg st m t0 br)).2 0)
        | none => (findBackendByDialog cfg st m).2.1 := by
  rw [sendToBackend_eq cfg st m br t0 h0]
  split <;> rfl

theorem sendToBackend_length (cfg : Cfg) (st : St) (m : Message) (br : Bytes) :
    (sendToBackend cfg st m br).2.length ≤ 1 := by
  cases h0 : cfg.transports0 with
  | none => simp [sendToBackend_none cfg st m br h0]
  | some t0 =>
    rw [sendToBackend_out cfg st m br t0 h0]
    split <;> simp

theorem findBackendByDialog_request (cfg : Cfg) (st : St) (m : Message) (hreq : isRequest m = true) :
    (findBackendByDialog cfg st m).1 = (match (getDialog cfg.cm m).1 with
                                        | none => none
                                        | some d => pinGet st.pins d) ∧
    (findBackendByDialog cfg st m).2.2 = (getDialog cfg.cm m).2 := by
  unfold findBackendByDialog
  unfold isRequest at hreq
  split
  · split
    · rename_i h; simp [h]
    · rename_i h; simp [h]
  · rename_i hn
    split at hreq
    · rename_i a b c hs; exact absurd hs (hn a b c)
    · cases hreq

theorem findBackendByDialog_response (cfg : Cfg) (st : St) (m : Message) (hreq : isRequest m = false) :
    findBackendByDialog cfg st m = (none, st.pins, m) := by
  unfold findBackendByDialog
  unfold isRequest at hreq
  split
  · rename_i hs; rw [hs] at hreq; cases hreq
  · rfl

/-! ### the pin list is a map -/

theorem pinGet_pinDel (ps : List PinEntry) (k' k : Bytes) :
    pinGet (pinDel ps k') k = if k' = k then none else pinGet ps k := by
  unfold pinGet pinDel
  rw [Keyed.find?_erase PinEntry.key]
  split <;> rfl

theorem pinGet_pinAdd (ps : List PinEntry) (k' : Bytes) (b : BackendRef) (e : Int) (k : Bytes) :
    pinGet (pinAdd ps k' b e) k = if k' = k then some b else pinGet ps k := by
  unfold pinGet pinAdd
  rw [List.find?_append, Keyed.find?_erase PinEntry.key]
  by_cases hk : k' = k <;> simp [hk]

/-- `findBackendByDialog` forgets the pin it looks up exactly for a NOTIFY whose (raw)
Subscription-State is "terminated". -/
def terminates (cfg : Cfg) (m : Message) : Bool :=
  match m.start with
  | .request method _ _ =>
    method == str "NOTIFY" &&
      getRawHeader cfg.cm (getDialog cfg.cm m).2 subscriptionStateName == some (str "terminated")
  | _ => false

theorem findBackendByDialog_pins (cfg : Cfg) (st : St) (m : Message) :
    (findBackendByDialog cfg st m).2.1 =
      match (getDialog cfg.cm m).1 with
      | some d => if terminates cfg m then pinDel st.pins d else st.pins
      | none => st.pins := by
  unfold findBackendByDialog terminates
  cases hs : m.start with
  | request method u v =>
    simp only []
    cases hd : getDialog cfg.cm m with
    | mk o m1 => cases o <;> simp
  | status a b c =>
    simp only []
    split <;> simp

end Lemmas
