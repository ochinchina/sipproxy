/-
Lemmas.LayoutPipe — re-layout lifted through `Proxy.Model` up to `step`.

`lview cm m`: everything the pipeline can read of a message, with the layout of the Via, Route and
Record-Route entries over header lines abstracted away: start line, body, the three stacks, presence of
a Record-Route header, the decoded From / To / CSeq, the raw Call-ID / Expires / Subscription-State, and
ALL headers outside the three routing classes (`restOf`: names, values, order).
`LR cm m m'`: both messages are well formed (`ViaOK`, `RouteOK`: every Via / Route header decodes) and have
the same `lview`. `pipeRel_layout`: `LR` is respected by all primitive header operations the way
`Lemmas.PipeRel` requires, PROVIDED the classes of the pipeline's keys are pairwise disjoint
(`AllDisj`, from `SaneFor`). Hence (`step_layout`): two events whose messages are `LR`-related yield equal
states, equal destinations, and payloads that are serialisations of `LR`-related messages.
-/
import Lemmas.PipeRel
import Lemmas.Pipe
import Lemmas.Spell
import Lemmas.Layout
open GoStd Sip Proxy

namespace Lemmas

section
variable (cm : List (Bytes × Bytes))

/-- what the pipeline reads, layout of the routing headers abstracted away -/
structure LView where
  start : StartLine
  body : Bytes
  via : List ViaParam
  route : List RouteParam
  rr : List RouteParam
  rrP : Bool
  fromV : Option FromTo
  toV : Option FromTo
  cseqV : Option CSeq
  callId : Option Bytes
  expires : Option Bytes
  subst : Option Bytes
  rest : List Header

def routing (n : Bytes) : Bool :=
  isSameHeader cm n viaName || isSameHeader cm n routeName || isSameHeader cm n recordRouteName

def restOf (hs : List Header) : List Header := hs.filter (fun h => !routing cm h.name)

def lview (m : Message) : LView :=
  { start := m.start, body := m.body, via := viaStack cm m.headers, route := routeStack cm m.headers,
    rr := rrStack cm m.headers, rrP := (findHeader cm m.headers recordRouteName).isSome,
    fromV := (getFrom cm m).map Prod.fst, toV := (getTo cm m).map Prod.fst, cseqV := (getCSeq cm m).map Prod.fst,
    callId := getRawHeader cm m callIdName, expires := getRawHeader cm m expiresName,
    subst := getRawHeader cm m subscriptionStateName, rest := restOf cm m.headers }

def LOK (m : Message) : Prop := ViaOK cm m.headers ∧ RouteOK cm m.headers

/-- same message up to the layout of the routing headers -/
def LR (m m' : Message) : Prop := LOK cm m ∧ LOK cm m' ∧ lview cm m = lview cm m'

theorem LR.refl {m : Message} (h : LOK cm m) : LR cm m m := ⟨h, h, rfl⟩
theorem LR.symm {m m' : Message} (h : LR cm m m') : LR cm m' m := ⟨h.2.1, h.1, h.2.2.symm⟩

/-- one operation, one side: well-formedness is kept and the view changes by `f` -/
def Step (f : LView → LView) (m m1 : Message) : Prop := LOK cm m → LOK cm m1 ∧ lview cm m1 = f (lview cm m)

theorem LR.step {f : LView → LView} {m m' m1 m1' : Message} (H : LR cm m m')
    (s : Step cm f m m1) (s' : Step cm f m' m1') : LR cm m1 m1' := by
  obtain ⟨a, b⟩ := s H.1
  obtain ⟨a', b'⟩ := s' H.2.1
  exact ⟨a, a', by rw [b, b', H.2.2]⟩

theorem Step.lr {m m1 : Message} (s : Step cm id m m1) (hok : LOK cm m) : LR cm m m1 :=
  ⟨hok, (s hok).1, (s hok).2.symm⟩

def AllDisj : Prop := ∀ a ∈ pipeKeys, ∀ b ∈ pipeKeys, a ≠ b → Disj cm a b

theorem allDisj_of_sane (hs : SaneFor cm pipeKeys) : AllDisj cm :=
  fun _ ha _ hb hab _ h => hs.disj cm ha hb hab h

/-! ### the components are functions of the class views -/

theorem listOK_of_view {β : Type} (S : Slot (List β)) {hs hs' : List Header}
    (h : classView cm S.name hs' = classView cm S.name hs) (hok : ListOK cm S hs) : ListOK cm S hs' := by
  intro x hx hc
  have : x ∈ classView cm S.name hs' := by simp [classView, hx, hc]
  rw [h] at this
  exact hok x (List.mem_filter.mp this).1 hc

theorem getLazy_fst_of_view {α : Type} (S : Slot α) {m m' : Message}
    (h : classView cm S.name m'.headers = classView cm S.name m.headers) :
    (getLazy cm S m').map Prod.fst = (getLazy cm S m).map Prod.fst := by
  rw [getLazy_fst, getLazy_fst, findHeader_of_view cm _ h]

theorem getRawHeader_of_view {m m' : Message} {n : Bytes}
    (h : classView cm n m'.headers = classView cm n m.headers) : getRawHeader cm m' n = getRawHeader cm m n := by
  unfold getRawHeader
  rw [findHeader_of_view cm n h]

theorem restOf_setFirst_other {n : Bytes} (hn : ∀ x, isSameHeader cm x n = true → routing cm x = false)
    (hs : List Header) (v : HVal) : restOf cm (setFirst cm hs n v) = setFirst cm (restOf cm hs) n v := by
  induction hs with
  | nil => rfl
  | cons x xs ih =>
    simp only [restOf] at ih
    cases hx : isSameHeader cm x.name n with
    | true => simp [restOf, setFirst, hx, hn x.name hx]
    | false =>
      cases hr : routing cm x.name with
      | true => simp [restOf, setFirst, hx, hr, ih]
      | false => simp [restOf, setFirst, hx, hr, ih]

theorem routing_via {x : Bytes} (h : isSameHeader cm x viaName = true) : routing cm x = true := by simp [routing, h]
theorem routing_route {x : Bytes} (h : isSameHeader cm x routeName = true) : routing cm x = true := by simp [routing, h]
theorem routing_rr {x : Bytes} (h : isSameHeader cm x recordRouteName = true) : routing cm x = true := by
  simp [routing, h]

/-! ### an operation on the class `X` alone

Two ways of saying that `m1` is `m` after such an operation: `Kept` (the views of the disjoint classes)
and the stronger `Untouched` (every selection of names that misses the class, which also covers the
non-routing headers `restOf`); every operation is shown `Untouched`, `Kept` is read off it. -/

structure Kept (X : Bytes) (m m1 : Message) : Prop where
  start : m1.start = m.start
  body : m1.body = m.body
  views : ∀ n, Disj cm X n → classView cm n m1.headers = classView cm n m.headers

theorem Kept.refl (X : Bytes) (m : Message) : Kept cm X m m := ⟨rfl, rfl, fun _ _ => rfl⟩

theorem Kept.trans {X : Bytes} {a b c : Message} (h : Kept cm X a b) (k : Kept cm X b c) : Kept cm X a c :=
  ⟨k.start.trans h.start, k.body.trans h.body, fun n d => (k.views n d).trans (h.views n d)⟩

theorem Kept.withHeaders {X : Bytes} {m : Message} {hs : List Header}
    (h : ∀ n, Disj cm X n → classView cm n hs = classView cm n m.headers) :
    Kept cm X m { m with headers := hs } := ⟨rfl, rfl, h⟩

/-- `m1` is `m` after an operation on the headers of class `X` alone: start line, body and, in order, every
header outside the class (`p`: any selection of names that misses the class) -/
def Untouched (X : Bytes) (m m1 : Message) : Prop := ∀ p : Bytes → Bool, Hidden p cm X → Frame p id m m1

variable {cm}

theorem Untouched.kept {X : Bytes} {m m1 : Message} (u : Untouched cm X m m1) : Kept cm X m m1 :=
  ⟨(u (fun _ => false) fun _ _ => rfl).start, (u (fun _ => false) fun _ _ => rfl).body,
   fun n d => by simpa [classView] using (u (fun x => isSameHeader cm x n) d).headers⟩

theorem Untouched.rest {X : Bytes} {m m1 : Message} (u : Untouched cm X m m1)
    (hX : ∀ x, isSameHeader cm x X = true → routing cm x = true) : restOf cm m1.headers = restOf cm m.headers := by
  simpa [restOf] using (u (fun x => !routing cm x) fun x hx => by simp [hX x hx]).headers

theorem untouched_getLazy {α : Type} (S : Slot α) {m m1 : Message} {a : α} (h : getLazy cm S m = some (a, m1)) :
    Untouched cm S.name m m1 := fun p hp => frame_getLazy p id cm S (hp.blind id) h

theorem untouched_popLazy {β : Type} (S : Slot (List β)) {m m1 : Message} (h : popLazy cm S m = some m1) :
    Untouched cm S.name m m1 := fun p hp => frame_popLazy p id cm S hp h


theorem Kept.fields (hD : AllDisj cm) {X : Bytes} (hX : X ∈ pipeKeys) {m m1 : Message} (k : Kept cm X m m1) :
    (X ≠ viaName → (ViaOK cm m.headers → ViaOK cm m1.headers) ∧ viaStack cm m1.headers = viaStack cm m.headers) ∧
    (X ≠ routeName → (RouteOK cm m.headers → RouteOK cm m1.headers) ∧ routeStack cm m1.headers = routeStack cm m.headers) ∧
    (X ≠ recordRouteName → rrStack cm m1.headers = rrStack cm m.headers ∧
      (findHeader cm m1.headers recordRouteName).isSome = (findHeader cm m.headers recordRouteName).isSome) ∧
    (X ≠ fromName → (getFrom cm m1).map Prod.fst = (getFrom cm m).map Prod.fst) ∧
    (X ≠ toName → (getTo cm m1).map Prod.fst = (getTo cm m).map Prod.fst) ∧
    (X ≠ cseqName → (getCSeq cm m1).map Prod.fst = (getCSeq cm m).map Prod.fst) ∧
    (X ≠ callIdName → getRawHeader cm m1 callIdName = getRawHeader cm m callIdName) ∧
    (X ≠ expiresName → getRawHeader cm m1 expiresName = getRawHeader cm m expiresName) ∧
    (X ≠ subscriptionStateName → getRawHeader cm m1 subscriptionStateName = getRawHeader cm m subscriptionStateName) := by
  refine ⟨fun hne => ?_, fun hne => ?_, fun hne => ?_, fun hne => ?_, fun hne => ?_, fun hne => ?_,
          fun hne => ?_, fun hne => ?_, fun hne => ?_⟩
  · have v := k.views _ (hD X hX _ pc_via hne)
    exact ⟨listOK_of_view cm viaSlot v, stackOf_of_view cm _ _ v⟩
  · have v := k.views _ (hD X hX _ pc_route hne)
    exact ⟨listOK_of_view cm routeSlot v, stackOf_of_view cm _ _ v⟩
  · have v := k.views _ (hD X hX _ pc_recordRoute hne)
    exact ⟨stackOf_of_view cm _ _ v, by rw [findHeader_of_view cm _ v]⟩
  · rw [getFrom_eq, getFrom_eq]; exact getLazy_fst_of_view cm fromSlot (k.views _ (hD X hX _ pc_from hne))
  · rw [getTo_eq, getTo_eq]; exact getLazy_fst_of_view cm toSlot (k.views _ (hD X hX _ pc_to hne))
  · rw [getCSeq_eq, getCSeq_eq]; exact getLazy_fst_of_view cm cseqSlot (k.views _ (hD X hX _ pc_cseq hne))
  · exact getRawHeader_of_view cm (k.views _ (hD X hX _ pc_callId hne))
  · exact getRawHeader_of_view cm (k.views _ (hD X hX _ pc_expires hne))
  · exact getRawHeader_of_view cm (k.views _ (hD X hX _ pc_subscriptionState hne))

/-! ### the view after an operation on the class at one position of `pipeKeys`

`AllDisj` speaks of keys that differ; that the eleven keys do is evaluated once (`pipeKeys_nodup`), and
from then on a class is named by its position. -/

theorem pipeKeys_nodup : pipeKeys.Nodup := by simp only [fixture]; decide +kernel

/-- the key at a position of `pipeKeys`: 0 Via, 1 Route, 2 Record-Route, 3 From, 4 To, 5 CSeq, 6 Call-ID,
7 Content-Length, 8 Max-Forwards, 9 Expires, 10 Subscription-State -/
def pipeKey (i : Fin 11) : Bytes := pipeKeys[i.val]'i.isLt

theorem pipeKey_mem (i : Fin 11) : pipeKey i ∈ pipeKeys := List.getElem_mem _

theorem pipeKey_ne {i j : Fin 11} (h : i ≠ j) : pipeKey i ≠ pipeKey j := fun e => by
  have hp := List.pairwise_iff_getElem.1 pipeKeys_nodup
  rcases Nat.lt_or_gt_of_ne (fun e' => h (Fin.ext e')) with lt | lt
  · exact hp i.val j.val i.isLt j.isLt lt e
  · exact hp j.val i.val j.isLt i.isLt lt e.symm

theorem allDisj_at (hD : AllDisj cm) (i j : Fin 11) (h : i ≠ j) : Disj cm (pipeKey i) (pipeKey j) :=
  hD _ (pipeKey_mem i) _ (pipeKey_mem j) (pipeKey_ne h)

theorem not_routing_at (hD : AllDisj cm) (i : Fin 11) (hi : 2 < i.val) :
    ∀ x, isSameHeader cm x (pipeKey i) = true → routing cm x = false := by
  have ne : ∀ j : Fin 11, j.val ≤ 2 → i ≠ j := fun j hj e => by subst e; omega
  intro x hx
  have d0 : isSameHeader cm x viaName = false := allDisj_at hD i 0 (ne 0 (by decide)) x hx
  have d1 : isSameHeader cm x routeName = false := allDisj_at hD i 1 (ne 1 (by decide)) x hx
  have d2 : isSameHeader cm x recordRouteName = false := allDisj_at hD i 2 (ne 2 (by decide)) x hx
  simp [routing, d0, d1, d2]

theorem classView_restOf {n : Bytes} (hn : ∀ x, isSameHeader cm x n = true → routing cm x = false) (hs : List Header) :
    classView cm n (restOf cm hs) = classView cm n hs := by
  simp only [classView, restOf, List.filter_filter]
  refine List.filter_congr fun h _ => ?_
  cases hc : isSameHeader cm h.name n with
  | false => rfl
  | true => simp [hn _ hc]

/-- The six fields read from the classes at positions 3 … 10 are read from non-routing headers: the view is
its routing part (start line, body, the three stacks, the Record-Route flag) around the view of `restOf`. -/
theorem lview_rest (hD : AllDisj cm) (m : Message) :
    lview cm m =
      { lview cm { m with headers := restOf cm m.headers } with
        via := viaStack cm m.headers, route := routeStack cm m.headers, rr := rrStack cm m.headers,
        rrP := (findHeader cm m.headers recordRouteName).isSome } := by
  have cv : ∀ i : Fin 11, 2 < i.val →
      classView cm (pipeKey i) m.headers = classView cm (pipeKey i) (restOf cm m.headers) :=
    fun i hi => (classView_restOf (not_routing_at hD i hi) _).symm
  unfold lview
  congr 1
  · rw [getFrom_eq, getFrom_eq]; exact getLazy_fst_of_view cm fromSlot (cv 3 (by decide))
  · rw [getTo_eq, getTo_eq]; exact getLazy_fst_of_view cm toSlot (cv 4 (by decide))
  · rw [getCSeq_eq, getCSeq_eq]; exact getLazy_fst_of_view cm cseqSlot (cv 5 (by decide))
  · exact getRawHeader_of_view cm (cv 6 (by decide))
  · exact getRawHeader_of_view cm (cv 9 (by decide))
  · exact getRawHeader_of_view cm (cv 10 (by decide))
  · simp [restOf]

theorem step_via (hD : AllDisj cm) {m m1 : Message} {fv : List ViaParam → List ViaParam} (u : Untouched cm viaName m m1)
    (own : ViaOK cm m.headers → ViaOK cm m1.headers ∧ viaStack cm m1.headers = fv (viaStack cm m.headers)) :
    Step cm (fun a => { a with via := fv a.via }) m m1 := fun h => by
  obtain ⟨-, f1, f2, -⟩ := u.kept.fields hD pc_via
  obtain ⟨ok1, s1⟩ := f1 (pipeKey_ne (i := 0) (j := 1) (by decide))
  obtain ⟨s2, p2⟩ := f2 (pipeKey_ne (i := 0) (j := 2) (by decide))
  obtain ⟨ok, e⟩ := own h.1
  refine ⟨⟨ok, ok1 h.2⟩, ?_⟩
  rw [lview_rest hD m1, lview_rest hD m, u.rest fun _ => routing_via cm, u.kept.start, u.kept.body, e, s1, s2, p2]

theorem step_route (hD : AllDisj cm) {m m1 : Message} {fr : List RouteParam → List RouteParam}
    (u : Untouched cm routeName m m1)
    (own : RouteOK cm m.headers → RouteOK cm m1.headers ∧ routeStack cm m1.headers = fr (routeStack cm m.headers)) :
    Step cm (fun a => { a with route := fr a.route }) m m1 := fun h => by
  obtain ⟨f0, -, f2, -⟩ := u.kept.fields hD pc_route
  obtain ⟨ok0, s0⟩ := f0 (pipeKey_ne (i := 1) (j := 0) (by decide))
  obtain ⟨s2, p2⟩ := f2 (pipeKey_ne (i := 1) (j := 2) (by decide))
  obtain ⟨ok, e⟩ := own h.2
  refine ⟨⟨ok0 h.1, ok⟩, ?_⟩
  rw [lview_rest hD m1, lview_rest hD m, u.rest fun _ => routing_route cm, u.kept.start, u.kept.body, e, s0, s2, p2]

theorem step_rr (hD : AllDisj cm) {m m1 : Message} {frr : List RouteParam → List RouteParam} {fp : Bool → Bool}
    (u : Untouched cm recordRouteName m m1)
    (own : rrStack cm m1.headers = frr (rrStack cm m.headers) ∧
      (findHeader cm m1.headers recordRouteName).isSome = fp (findHeader cm m.headers recordRouteName).isSome) :
    Step cm (fun a => { a with rr := frr a.rr, rrP := fp a.rrP }) m m1 := fun h => by
  obtain ⟨f0, f1, -⟩ := u.kept.fields hD pc_recordRoute
  obtain ⟨ok0, s0⟩ := f0 (pipeKey_ne (i := 2) (j := 0) (by decide))
  obtain ⟨ok1, s1⟩ := f1 (pipeKey_ne (i := 2) (j := 1) (by decide))
  refine ⟨⟨ok0 h.1, ok1 h.2⟩, ?_⟩
  rw [lview_rest hD m1, lview_rest hD m, u.rest fun _ => routing_rr cm, u.kept.start, u.kept.body, own.1, own.2, s0, s1]

/-- The lazy getter of a non-routing class (From, To, CSeq; position `i`) decodes its header in place among
the non-routing headers and changes nothing of the routing part. -/
theorem step_decode (hD : AllDisj cm) (i : Fin 11) (hi : 2 < i.val) {α : Type} (S : Slot α) (hS : S.name = pipeKey i)
    {m m1 : Message} {a : α} (hg : getLazy cm S m = some (a, m1)) :
    Step cm (fun v =>
      { lview cm { start := v.start, headers := setFirst cm v.rest S.name (S.inj a), body := v.body } with
        via := v.via, route := v.route, rr := v.rr, rrP := v.rrP }) m m1 := fun h => by
  have k : Kept cm (pipeKey i) m m1 := hS ▸ (untouched_getLazy S hg).kept
  have ne : ∀ j : Fin 11, j.val ≤ 2 → pipeKey i ≠ pipeKey j := fun j hj => pipeKey_ne fun e => by subst e; omega
  obtain ⟨f0, f1, f2, -⟩ := k.fields hD (pipeKey_mem i)
  obtain ⟨ok0, s0⟩ := f0 (ne 0 (by decide))
  obtain ⟨ok1, s1⟩ := f1 (ne 1 (by decide))
  obtain ⟨s2, p2⟩ := f2 (ne 2 (by decide))
  have hrest : restOf cm m1.headers = setFirst cm (restOf cm m.headers) S.name (S.inj a) := by
    obtain ⟨_, _, _, rfl⟩ := getLazy_some cm S hg
    exact restOf_setFirst_other cm (hS ▸ not_routing_at hD i hi) _ _
  refine ⟨⟨ok0 h.1, ok1 h.2⟩, ?_⟩
  rw [lview_rest hD m1, hrest, k.start, k.body, s0, s1, s2, p2]
  rfl

variable (cm)

theorem good_decodeVia {h : Header} (g : viaSlot.Good h.value) : viaSlot.Good (decodeVia h).value := by
  obtain ⟨nm, val⟩ := h
  rcases g with ⟨w, rfl, hw⟩ | ⟨s, w, rfl, hp⟩
  · exact .inl ⟨w, rfl, hw⟩
  · have hp' : parseVia s = some w := hp
    exact .inl ⟨w, by simp [decodeVia, hp', viaSlot], parseVia_ne_nil s w hp⟩

theorem viaOK_forEachVia {hs : List Header} (hok : ViaOK cm hs) : ViaOK cm (forEachViaHeaders cm hs).1 := by
  rw [forEachViaHeaders_fst]
  intro x hx hc
  obtain ⟨h, hm, rfl⟩ := List.mem_map.1 hx
  by_cases hv : isSameHeader cm h.name viaName = true
  · rw [if_pos hv]; exact good_decodeVia (hok h hm hv)
  · rw [if_neg hv] at hc; exact absurd hc hv

theorem findHeader_insertAt_isSome (hs : List Header) (p : Nat) (x : Header) (n : Bytes)
    (hx : isSameHeader cm x.name n = true) : (findHeader cm (insertAt hs p x) n).isSome = true := by
  simp only [findHeader, insertAt, List.find?_append, List.find?_cons, hx]
  cases List.find? (fun h => isSameHeader cm h.name n) (List.take p hs) <;> rfl

end

section Instance
variable {cm : List (Bytes × Bytes)} (hD : AllDisj cm)
include hD

omit hD in
/-- A list slot whose stack is a field of the view (`step`: an operation on the class alone that keeps
`ListOK` and maps the stack by `f` maps that field by `f`): its getter and its pop respect `LR`. -/
theorem lr_list {β : Type} (S : Slot (List β)) (hne : ∀ s v, S.parse s = some v → v ≠ []) {dec : HVal → List β}
    (hdec : dec = S.vals) {upd : (List β → List β) → LView → LView}
    (step : ∀ {x x1 : Message} {f : List β → List β}, Untouched cm S.name x x1 →
      (ListOK cm S x.headers → ListOK cm S x1.headers ∧ stackOf cm S.name dec x1.headers = f (stackOf cm S.name dec x.headers)) →
      Step cm (upd f) x x1)
    {m m' : Message} (H : LR cm m m') (hok : ListOK cm S m.headers) (hok' : ListOK cm S m'.headers)
    (hst : stackOf cm S.name dec m.headers = stackOf cm S.name dec m'.headers) :
    HeadRel (LR cm) (getLazy cm S m) (getLazy cm S m') ∧ ORel (LR cm) (popLazy cm S m) (popLazy cm S m') := by
  constructor
  · have stepOf : ∀ {x x1 : Message} {v : List β}, getLazy cm S x = some (v, x1) → Step cm (upd id) x x1 :=
      fun hg => step (untouched_getLazy S hg) fun h => getLazy_keeps_ok cm S hne hdec h hg
    rcases getLazy_both cm S hne hdec hok hok' hst with h | ⟨v, v', m1, m1', h1, h2, hh⟩
    · exact Or.inl h
    · exact Or.inr ⟨v, v', m1, m1', h1, h2, hh, H.step cm (stepOf h1) (stepOf h2)⟩
  · have stepOf : ∀ {x x1 : Message}, popLazy cm S x = some x1 → Step cm (upd List.tail) x x1 :=
      fun hp => step (untouched_popLazy S hp) fun h => popLazy_of_ok cm S hne hdec h hp
    rcases popLazy_both cm S hne hdec hok hok' hst with h | ⟨m1, m1', h1, h2⟩
    · exact Or.inl h
    · exact Or.inr ⟨m1, m1', h1, h2, H.step cm (stepOf h1) (stepOf h2)⟩

theorem lr_via {m m' : Message} (H : LR cm m m') :
    HeadRel (LR cm) (getVia cm m) (getVia cm m') ∧ ORel (LR cm) (popVia cm m) (popVia cm m') := by
  rw [getVia_eq, getVia_eq, popVia_eq, popVia_eq]
  exact lr_list viaSlot parseVia_ne_nil viaVals_eq (step_via hD) H H.1.1 H.2.1.1 (congrArg LView.via H.2.2)

theorem lr_route {m m' : Message} (H : LR cm m m') :
    HeadRel (LR cm) (getRoute cm m) (getRoute cm m') ∧ ORel (LR cm) (popRoute cm m) (popRoute cm m') := by
  rw [getRoute_eq, getRoute_eq, popRoute_eq, popRoute_eq]
  exact lr_list routeSlot parseRoute_ne_nil routeVals_eq (step_route hD) H H.1.2 H.2.1.2 (congrArg LView.route H.2.2)

omit hD in
theorem fst_cases {α : Type} {r r' : Option (α × Message)} (h : r.map Prod.fst = r'.map Prod.fst) :
    (r = none ∧ r' = none) ∨ ∃ a m1 m1', r = some (a, m1) ∧ r' = some (a, m1') := by
  match r, r', h with
  | none, none, _ => exact Or.inl ⟨rfl, rfl⟩
  | some (a, m1), some (a', m1'), h =>
    obtain rfl : a = a' := by simpa using h
    exact Or.inr ⟨a, m1, m1', rfl, rfl⟩

/-- a typed getter `g` of a non-routing class: what it returns is a field of the view (`hfst`) -/
theorem lr_getLazy (i : Fin 11) (hi : 2 < i.val) {α : Type} (S : Slot α) (hS : S.name = pipeKey i)
    {g : Message → Option (α × Message)} (hg : ∀ m, g m = getLazy cm S m) {m m' : Message} (H : LR cm m m')
    (hfst : (g m).map Prod.fst = (g m').map Prod.fst) : GRel (LR cm) (g m) (g m') := by
  rcases fst_cases hfst with h | ⟨a, m1, m1', h1, h2⟩
  · exact Or.inl h
  · exact Or.inr ⟨a, m1, m1', h1, h2,
      H.step cm (step_decode hD i hi S hS (hg m ▸ h1)) (step_decode hD i hi S hS (hg m' ▸ h2))⟩

/-- the Via stack after `SetReceived`: its head stamped -/
def stampHead (ip : Bytes) (port : Int) : List ViaParam → List ViaParam
  | [] => []
  | vp :: t => stampReceived vp ip port :: t

omit hD in
theorem own_setReceived (m : Message) (ip : Bytes) (port : Int) (hok : ViaOK cm m.headers) :
    ViaOK cm (setReceived cm m ip port).headers ∧
    viaStack cm (setReceived cm m ip port).headers = stampHead ip port (viaStack cm m.headers) := by
  rcases getVia_of_viaOK cm hok with ⟨h1, h2⟩ | ⟨vp, v, m1, rest, h1, h2⟩
  · rw [setReceived_of_none cm ip port h1, h2]
    exact ⟨hok, rfl⟩
  · constructor
    · rw [setReceived_of_cons cm ip port h1]
      exact listOK_setFirst cm viaSlot hok _ (w := stampReceived vp ip port :: v) (by simp)
    · rw [viaStack_setReceived, h1, h2]
      rfl

theorem step_setReceived (m : Message) (ip : Bytes) (port : Int) :
    Step cm (fun a => { a with via := stampHead ip port a.via }) m (setReceived cm m ip port) :=
  step_via hD (fun p hp => frame_setReceived p id cm hp m ip port) (own_setReceived m ip port)

theorem step_addVia (m : Message) (vp : ViaParam) : Step cm (fun a => { a with via := vp :: a.via }) m (addVia cm m vp) :=
  step_via (fv := fun s => vp :: s) hD (fun p hp => frame_addVia p id cm hp m vp)
    fun hok => ⟨listOK_insertAt cm viaSlot hok _ (Or.inl ⟨[vp], rfl, by simp⟩), viaStack_addVia cm m vp⟩

theorem step_addRecordRoute (m : Message) (rr : RouteParam) :
    Step cm (fun a => { a with rr := rr :: a.rr, rrP := true }) m (addRecordRoute cm m rr) :=
  step_rr (frr := fun s => rr :: s) (fp := fun _ => true) hD (fun p hp => frame_addRecordRoute p id cm hp m rr)
    ⟨rrStack_addRecordRoute cm m rr, findHeader_insertAt_isSome cm _ _ _ _ (isSameHeader_refl cm recordRouteName)⟩

theorem step_forEachVia (m : Message) : Step cm id m { m with headers := (forEachViaHeaders cm m.headers).1 } :=
  step_via (fv := id) hD (fun p hp => frame_forEachVia p id cm (hp.blind id) m)
    fun hok => ⟨viaOK_forEachVia cm hok, viaStack_forEachViaHeaders cm m.headers⟩

theorem pipeRel_layout : PipeRel (LR cm) cm where
  start H := congrArg LView.start H.2.2
  getVia H := (lr_via hD H).1
  getRoute H := (lr_route hD H).1
  getFrom H := lr_getLazy hD 3 (by decide) fromSlot rfl (getFrom_eq cm) H (congrArg LView.fromV H.2.2)
  getTo H := lr_getLazy hD 4 (by decide) toSlot rfl (getTo_eq cm) H (congrArg LView.toV H.2.2)
  getCSeq H := lr_getLazy hD 5 (by decide) cseqSlot rfl (getCSeq_eq cm) H (congrArg LView.cseqV H.2.2)
  rawCallId H := congrArg LView.callId H.2.2
  rawExpires H := congrArg LView.expires H.2.2
  rawSubst H := congrArg LView.subst H.2.2
  popVia H := (lr_via hD H).2
  popRoute H := (lr_route hD H).2
  setReceived H ip port := H.step cm (step_setReceived hD _ ip port) (step_setReceived hD _ ip port)
  addVia H vp := H.step cm (step_addVia hD _ vp) (step_addVia hD _ vp)
  addRecordRoute H rr := H.step cm (step_addRecordRoute hD _ rr) (step_addRecordRoute hD _ rr)
  rrPresent H := congrArg LView.rrP H.2.2
  forEachVia H :=
    ⟨by rw [forEachViaHeaders_vias, forEachViaHeaders_vias]; exact congrArg LView.via H.2.2,
     H.step cm (step_forEachVia hD _) (step_forEachVia hD _)⟩

end Instance

section Split
variable {cm : List (Bytes × Bytes)} (hD : AllDisj cm) (sl : StartLine) (body : Bytes) (pre post : List Header)
  (nm nm₁ nm₂ a b : Bytes)

/-- a message with the header line `nm: a,b` … -/
def joinedMsg : Message :=
  { start := sl, headers := pre ++ { name := nm, value := .raw (a ++ [44] ++ b) } :: post, body := body }

/-- … and the same with the two lines `nm₁: a`, `nm₂: b` in its place -/
def splitMsg : Message :=
  { start := sl, headers := pre ++ { name := nm₁, value := .raw a } :: { name := nm₂, value := .raw b } :: post,
    body := body }

theorem untouched_split (X : Bytes) (c : isSameHeader cm nm X = true) (c₁ : isSameHeader cm nm₁ X = true)
    (c₂ : isSameHeader cm nm₂ X = true) :
    Untouched cm X (joinedMsg sl body pre post nm a b) (splitMsg sl body pre post nm₁ nm₂ a b) := fun p hp =>
  ⟨rfl, rfl, by simp [joinedMsg, splitMsg, List.filter_append, hp _ c, hp _ c₁, hp _ c₂]⟩

include hD

/-- `Via: a,b` against `Via: a` / `Via: b` (any spellings of the class), both parts decodable -/
theorem lr_split_via {x y : List ViaParam} (ha : parseVia a = some x) (hb : parseVia b = some y)
    (c : isSameHeader cm nm viaName = true) (c₁ : isSameHeader cm nm₁ viaName = true)
    (c₂ : isSameHeader cm nm₂ viaName = true) (hok : LOK cm (joinedMsg sl body pre post nm a b)) :
    LR cm (joinedMsg sl body pre post nm a b) (splitMsg sl body pre post nm₁ nm₂ a b) :=
  Step.lr cm (step_via (fv := id) hD (untouched_split sl body pre post nm nm₁ nm₂ a b viaName c c₁ c₂) fun hv =>
    ⟨viaOK_split cm pre post nm nm₁ nm₂ a b ha hb hv,
      (viaStack_split cm pre post nm nm₁ nm₂ a b ha hb (by rw [c₁, c]) (by rw [c₂, c])).symm⟩) hok

theorem lr_split_route {x y : List RouteParam} (ha : parseRoute a = some x) (hb : parseRoute b = some y)
    (c : isSameHeader cm nm routeName = true) (c₁ : isSameHeader cm nm₁ routeName = true)
    (c₂ : isSameHeader cm nm₂ routeName = true) (hok : LOK cm (joinedMsg sl body pre post nm a b)) :
    LR cm (joinedMsg sl body pre post nm a b) (splitMsg sl body pre post nm₁ nm₂ a b) :=
  Step.lr cm (step_route (fr := id) hD (untouched_split sl body pre post nm nm₁ nm₂ a b routeName c c₁ c₂) fun hv =>
    ⟨routeOK_split cm pre post nm nm₁ nm₂ a b ha hb hv,
      (routeStack_split cm pre post nm nm₁ nm₂ a b ha hb (by rw [c₁, c]) (by rw [c₂, c])).symm⟩) hok

theorem lr_split_rr {x y : List RouteParam} (ha : parseRoute a = some x) (hb : parseRoute b = some y)
    (c : isSameHeader cm nm recordRouteName = true) (c₁ : isSameHeader cm nm₁ recordRouteName = true)
    (c₂ : isSameHeader cm nm₂ recordRouteName = true) (hok : LOK cm (joinedMsg sl body pre post nm a b)) :
    LR cm (joinedMsg sl body pre post nm a b) (splitMsg sl body pre post nm₁ nm₂ a b) :=
  Step.lr cm (step_rr (frr := id) (fp := id) hD (untouched_split sl body pre post nm nm₁ nm₂ a b recordRouteName c c₁ c₂)
    ⟨(rrStack_split cm pre post nm nm₁ nm₂ a b ha hb (by rw [c₁, c]) (by rw [c₂, c])).symm, by
      simp only [joinedMsg, splitMsg, findHeader, List.find?_append, List.find?_cons, c, c₁, id]
      cases List.find? (fun h => isSameHeader cm h.name recordRouteName) pre <;> rfl⟩) hok

end Split

section Trans
variable {cm : List (Bytes × Bytes)}

theorem LR.trans {a b c : Message} (h : LR cm a b) (k : LR cm b c) : LR cm a c := ⟨h.1, k.2.1, h.2.2.trans k.2.2⟩

end Trans

/-- One received message, two layouts: equal states, equal destinations, payloads that are
serialisations of messages with the same `lview` (start line, body, the three stacks, …). -/
theorem step_layout (cfg : Cfg) (hD : AllDisj cfg.cm) {ev ev' : RawEv} (E : EvRel (LR cfg.cm) ev ev') (st : St) :
    SRG (LR cfg.cm) cfg (step cfg st ev) (step cfg st ev') :=
  step_rel cfg (pipeRel_layout hD) E st

theorem real_allDisj : AllDisj realCm := allDisj_of_sane realCm real_sane

theorem lOK_of_check {cm : List (Bytes × Bytes)} {lv lr : List Bytes} (hv : lowerClass cm viaName = lv)
    (hr : lowerClass cm routeName = lr) {m : Message}
    (h : (checkListOK viaSlot lv m.headers && checkListOK routeSlot lr m.headers) = true) : LOK cm m :=
  ⟨listOK_of_check cm viaSlot hv (Bool.and_eq_true_iff.1 h).1, listOK_of_check cm routeSlot hr (Bool.and_eq_true_iff.1 h).2⟩

/-! ### non-vacuity: the fixtures of `Lemmas.Pipe`, re-laid out

A response with the Via headers `own` and `a,b` against the same with three Via lines; a request with
`Route: p1,p2` against two Route lines. Both pairs are `LR`-related, are really processed (one packet
each), and so every theorem of this file and of `Lemmas.PipeRel` has a non-trivial instance. -/

section Examples

def lyOwn : Bytes := str "SIP/2.0/UDP 10.0.0.1:5060;branch=z9hG4bKabc"
def lyA : Bytes := str "SIP/2.0/UDP a:5070;received=10.0.0.7;rport=4444;branch=z1"
def lyB : Bytes := str "SIP/2.0/TCP b"
def lyPre : List Header := [{ name := str "Via", value := .raw lyOwn }]
def lyPost : List Header := [{ name := str "CSeq", value := .raw (str "1 INVITE") }]

attribute [fixture] lyOwn lyA lyB lyPre lyPost

def lyRespJ : Message :=
  { start := .status (str "SIP/2.0") 200 (str "OK"), body := [],
    headers := lyPre ++ { name := str "v", value := .raw (lyA ++ [44] ++ lyB) } :: lyPost }

def lyRespS : Message :=
  { start := .status (str "SIP/2.0") 200 (str "OK"), body := [],
    headers := lyPre ++ { name := str "Via", value := .raw lyA } :: { name := str "VIA", value := .raw lyB } :: lyPost }

attribute [fixture] lyRespJ lyRespS

theorem ly_parts : ∃ x y, parseVia lyA = some x ∧ parseVia lyB = some y :=
  parts_of_isSome (by simp only [fixture]; decide +kernel)

theorem lyResp_LR : LR realCm lyRespJ lyRespS := by
  obtain ⟨x, y, hx, hy⟩ := ly_parts
  exact lr_split_via real_allDisj _ _ lyPre lyPost (str "v") (str "Via") (str "VIA") lyA lyB hx hy
    via_spellings.1 via_spellings.2.1 via_spellings.2.2
    (lOK_of_check real_via real_route (m := lyRespJ) (by simp only [fixture]; decide +kernel))

def lyReqJ : Message :=
  { start := exMsg.start, body := [],
    headers := [] ++ { name := str "Route", value := .raw (exRouteA ++ [44] ++ exRouteB) } :: exMsgNoRoute.headers }

def lyReqS : Message :=
  { start := exMsg.start, body := [],
    headers := [] ++ { name := str "Route", value := .raw exRouteA } :: { name := str "ROUTE", value := .raw exRouteB } ::
      exMsgNoRoute.headers }

attribute [fixture] lyReqJ lyReqS

theorem lyReq_LR : LR realCm lyReqJ lyReqS := by
  obtain ⟨x, y, hx, hy⟩ := exRoute_parts
  exact lr_split_route real_allDisj _ _ [] exMsgNoRoute.headers (str "Route") (str "Route") (str "ROUTE")
    exRouteA exRouteB hx hy route_spellings.1 route_spellings.1 route_spellings.2
    (lOK_of_check real_via real_route (m := lyReqJ) (by simp only [fixture]; decide +kernel))

example := step_layout exCfg real_allDisj (EvRel.of_msg (exEv lyRespJ) (show LR exCfg.cm lyRespJ lyRespS from lyResp_LR)) exSt
example := step_layout exCfg real_allDisj (EvRel.of_msg (exEv lyReqJ) (show LR exCfg.cm lyReqJ lyReqS from lyReq_LR)) exSt

/-- Both layouts are really relayed: one packet each, and the two packets of a pair differ. -/
theorem lySteps :
    (step exCfg exSt (exEv lyRespJ)).2.length = 1 ∧ (step exCfg exSt (exEv lyRespS)).2.length = 1 ∧
    (step exCfg exSt (exEv lyRespJ)).2[0]? ≠ (step exCfg exSt (exEv lyRespS)).2[0]? ∧
    (step exCfg exSt (exEv lyReqJ)).2.length = 1 ∧ (step exCfg exSt (exEv lyReqS)).2.length = 1 ∧
    (step exCfg exSt (exEv lyReqJ)).2 ≠ (step exCfg exSt (exEv lyReqS)).2 := by
  simp only [fixture]; decide +kernel

/-- … to the same destination (by `step_layout`) -/
example :
    (step exCfg exSt (exEv lyRespJ)).2.length = 1 ∧ (step exCfg exSt (exEv lyRespS)).2.length = 1 ∧
    (step exCfg exSt (exEv lyRespJ)).2.map Out.dest = (step exCfg exSt (exEv lyRespS)).2.map Out.dest ∧
    (step exCfg exSt (exEv lyRespJ)).2 ≠ (step exCfg exSt (exEv lyRespS)).2 ∧
    (step exCfg exSt (exEv lyReqJ)).2.length = 1 ∧ (step exCfg exSt (exEv lyReqS)).2.length = 1 ∧
    (step exCfg exSt (exEv lyReqJ)).2 ≠ (step exCfg exSt (exEv lyReqS)).2 :=
  ⟨lySteps.1, lySteps.2.1,
   (step_layout exCfg real_allDisj (EvRel.of_msg (exEv lyRespJ) (show LR exCfg.cm lyRespJ lyRespS from lyResp_LR)) exSt).2.dest_eq,
   fun e => lySteps.2.2.1 (by rw [e]), lySteps.2.2.2.1, lySteps.2.2.2.2.1, lySteps.2.2.2.2.2⟩

end Examples

end Lemmas

