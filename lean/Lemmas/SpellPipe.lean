/-
Lemmas.SpellPipe — A3: re-spelling lifted through `Proxy.Model`, stage by stage up to `step`.

For two messages that are re-spellings of one another w.r.t. the pipeline's eleven lookup keys
(`PipeClasses`) every function of the pipeline returns EQUAL states / hops / identifiers, re-spelled
messages, and outputs with the same destination whose payloads are the serialisations of re-spelled
messages (hence equal byte strings up to the spelling of header names, `Lemmas.bytes_respelled`).
Holds for ANY compact-name map: no sanity hypothesis is needed here, it is only needed to show
that a concrete pair of names is a re-spelling (`Lemmas.Spell`, A4).

The lift itself is generic (`Lemmas.PipeRel`: any relation respected by the primitive header
operations); this file provides the instance (`pipeRel_respelled`, from the A1 lemmas of
`Lemmas.Spell`) and restates the stage theorems for it.

A1, A3, A4 are section numbers of Props/C17.lean, whose header lays out the property text (parts A, B).
-/
import Proxy.Model
import Lemmas.Spell
import Lemmas.PipeRel
import Lemmas.PipeExamples
open GoStd Sip Proxy

namespace Lemmas

theorem pipeRel_respelled (cm : List (Bytes × Bytes)) : PipeRel (MsgRespelled cm PipeClasses) cm where
  start H := H.start
  getVia H := (getVia_respelled cm PipeClasses H pc_via).head cm PipeClasses
  getRoute H := (getRoute_respelled cm PipeClasses H pc_route).head cm PipeClasses
  getFrom H := getFrom_respelledMsg cm PipeClasses H pc_from
  getTo H := getTo_respelledMsg cm PipeClasses H pc_to
  getCSeq H := getCSeq_respelled cm PipeClasses H pc_cseq
  rawCallId H := getRawHeader_respelledMsg cm PipeClasses H pc_callId
  rawExpires H := getRawHeader_respelledMsg cm PipeClasses H pc_expires
  rawSubst H := getRawHeader_respelledMsg cm PipeClasses H pc_subscriptionState
  popVia H := popVia_respelled cm PipeClasses H pc_via
  popRoute H := popRoute_respelled cm PipeClasses H pc_route
  setReceived H ip port := setReceived_respelled cm PipeClasses H pc_via ip port
  addVia H vp := addVia_respelled cm PipeClasses H pc_via vp
  addRecordRoute H rr := addRecordRoute_respelled cm PipeClasses H pc_recordRoute pc_from pc_maxForwards rr
  rrPresent H := findHeader_isSome_respelled cm PipeClasses H.headers pc_recordRoute
  forEachVia H :=
    ⟨(forEachViaHeaders_respelled cm PipeClasses H.headers pc_via).2,
     H.withHeaders cm PipeClasses (forEachViaHeaders_respelled cm PipeClasses H.headers pc_via).1⟩


/-- re-spelled w.r.t. all lookup keys of the pipeline -/
abbrev MR (cfg : Cfg) (m m' : Message) : Prop := MsgRespelled cfg.cm PipeClasses m m'

abbrev DataRel (cfg : Cfg) (d d' : Bytes) : Prop := DataRelG (MR cfg) cfg d d'

abbrev OutRel (cfg : Cfg) (o o' : Out) : Prop := OutRelG (MR cfg) cfg o o'

abbrev OutsRel (cfg : Cfg) (l l' : List Out) : Prop := OutsRelG (MR cfg) cfg l l'

abbrev SR (cfg : Cfg) (r r' : St × List Out) : Prop := SRG (MR cfg) cfg r r'

abbrev TR (cfg : Cfg) {α : Type} (r r' : α × Message) : Prop := PRel (MR cfg) r r'

/-- two receive events that differ only in the spelling of the header names of their messages -/
abbrev EvRespelled (cfg : Cfg) (ev ev' : RawEv) : Prop := EvRel (MR cfg) ev ev'

theorem dataRel_bytes {cfg : Cfg} {d d' : Bytes} (h : DataRel cfg d d') : BytesRespelled cfg.cm PipeClasses d d' := by
  obtain ⟨m, m', rfl, rfl, H⟩ := h
  exact bytes_respelled cfg.cm PipeClasses H pc_contentLength

section
variable (cfg : Cfg) {m m' : Message} {ev ev' : RawEv}

theorem getNextResponseHop_respelled (H : MR cfg m m') : TR cfg (getNextResponseHop cfg m) (getNextResponseHop cfg m') :=
  getNextResponseHop_rel cfg (pipeRel_respelled cfg.cm) H

theorem getNextRequestHopByRoute_respelled (H : MR cfg m m') :
    TR cfg (getNextRequestHopByRoute cfg m) (getNextRequestHopByRoute cfg m') :=
  getNextRequestHopByRoute_rel cfg (pipeRel_respelled cfg.cm) H

theorem getNextRequestHopByConfig_respelled (H : MR cfg m m') :
    TR cfg (getNextRequestHopByConfig cfg m) (getNextRequestHopByConfig cfg m') :=
  getNextRequestHopByConfig_rel cfg (pipeRel_respelled cfg.cm) H

theorem getNextRequestHop_respelled (H : MR cfg m m') : TR cfg (getNextRequestHop cfg m) (getNextRequestHop cfg m') :=
  getNextRequestHop_rel cfg (pipeRel_respelled cfg.cm) H

theorem insertSelf_respelled (H : MR cfg m m') (t : Listener) (br : Bytes) :
    MR cfg (insertSelf cfg m t br) (insertSelf cfg m' t br) :=
  insertSelf_rel cfg (pipeRel_respelled cfg.cm) H t br

theorem sendMessage_respelled (H : MR cfg m m') (st : St) (h : Hop) :
    SR cfg (sendMessage cfg st h m) (sendMessage cfg st h m') :=
  sendMessage_rel cfg (pipeRel_respelled cfg.cm) H st h

theorem findBackendByDialog_respelled (H : MR cfg m m') (st : St) :
    (findBackendByDialog cfg st m).1 = (findBackendByDialog cfg st m').1 ∧
    (findBackendByDialog cfg st m).2.1 = (findBackendByDialog cfg st m').2.1 ∧
    MR cfg (findBackendByDialog cfg st m).2.2 (findBackendByDialog cfg st m').2.2 := by
  obtain ⟨b, ps, m1, m1', e1, e2, H1⟩ := findBackendByDialog_rel cfg (pipeRel_respelled cfg.cm) H st
  rw [e1, e2]
  exact ⟨rfl, rfl, H1⟩

theorem sendToBackend_respelled (H : MR cfg m m') (st : St) (br : Bytes) :
    SR cfg (sendToBackend cfg st m br) (sendToBackend cfg st m' br) :=
  sendToBackend_rel cfg (pipeRel_respelled cfg.cm) H st br

theorem rawLearn_respelled (E : EvRespelled cfg ev ev') (st : St) :
    TR cfg (rawLearn cfg st ev) (rawLearn cfg st ev') :=
  rawLearn_rel cfg (pipeRel_respelled cfg.cm) E st

theorem rawStamp_respelled (E : EvRespelled cfg ev ev') {m1 m1' : Message} (H1 : MR cfg m1 m1') :
    MR cfg (rawStamp cfg ev m1) (rawStamp cfg ev' m1') :=
  rawStamp_rel cfg (pipeRel_respelled cfg.cm) E H1

theorem rawConn_respelled (E : EvRespelled cfg ev ev') {m2 m2' : Message} (H2 : MR cfg m2 m2') (st : St) :
    TR cfg (rawConn cfg st ev m2) (rawConn cfg st ev' m2') :=
  rawConn_rel cfg (pipeRel_respelled cfg.cm) E H2 st

theorem rawOwnRoute_respelled (E : EvRespelled cfg ev ev') {m3 m3' : Message} (H3 : MR cfg m3 m3') :
    MR cfg (rawOwnRoute cfg ev m3) (rawOwnRoute cfg ev' m3') :=
  rawOwnRoute_rel cfg (pipeRel_respelled cfg.cm) E H3

theorem handleRawMessage_respelled (E : EvRespelled cfg ev ev') (st : St) :
    TR cfg (handleRawMessage cfg st ev) (handleRawMessage cfg st ev') :=
  handleRawMessage_rel cfg (pipeRel_respelled cfg.cm) E st

theorem handleDialog_respelled (H : MR cfg m m') (st : St) (a : Bytes) (p : Int) :
    TR cfg (handleDialog cfg st a p m) (handleDialog cfg st a p m') :=
  handleDialog_rel cfg (pipeRel_respelled cfg.cm) H st a p

theorem handleMessage_respelled (E : EvRespelled cfg ev ev') (H : MR cfg m m') (st : St) :
    SR cfg (handleMessage cfg st ev m) (handleMessage cfg st ev' m') :=
  handleMessage_rel cfg (pipeRel_respelled cfg.cm) E H st

theorem step_respelled (E : EvRespelled cfg ev ev') (st : St) : SR cfg (step cfg st ev) (step cfg st ev') :=
  step_rel cfg (pipeRel_respelled cfg.cm) E st

end

/-! ### non-vacuity: the fixtures of `Lemmas.Pipe`, re-spelled

`exMsgSp` (request, `Lemmas.Spell`) and `exRespSp` (response) are re-spellings of `exMsg` / `exResp`;
both pairs of events are really processed (one packet each), so every `*_respelled` theorem of this
file has a non-trivial instance. -/

section Examples

/-- `exResp` spelled `v VIA cseq` instead of `Via v CSeq` -/
def exRespSp : Message :=
  { exResp with headers :=
      [ { name := str "v", value := .raw (str "SIP/2.0/UDP 10.0.0.1:5060;branch=z9hG4bKabc") },
        { name := str "VIA", value := .raw (str "SIP/2.0/UDP a:5070;received=10.0.0.7;rport=4444;branch=z1, SIP/2.0/TCP b") },
        { name := str "cseq", value := .raw (str "1 INVITE") } ] }

attribute [fixture] exRespSp

theorem exMsg_MR : MR exCfg exMsg exMsgSp := exMsg_respelled

theorem exResp_MR : MR exCfg exResp exRespSp :=
  ⟨rfl, rfl, respelledList_of_check _ _ _ (by simp only [fixture]; decide +kernel)⟩

theorem exEv_respelled_req : EvRespelled exCfg (exEv exMsg) (exEv exMsgSp) := EvRel.of_msg (exEv exMsg) exMsg_MR
theorem exEv_respelled_resp : EvRespelled exCfg (exEv exResp) (exEv exRespSp) := EvRel.of_msg (exEv exResp) exResp_MR

example := step_respelled exCfg exEv_respelled_req exSt
example := step_respelled exCfg exEv_respelled_resp exSt
example := handleRawMessage_respelled exCfg exEv_respelled_req exSt
example := handleDialog_respelled exCfg exResp_MR exSt (str "10.0.0.7") 4444
example := sendToBackend_respelled exCfg exMsg_MR exSt (str "z9hG4bKabc")

/-- The re-spelled events are really processed: one relayed packet each, and the payloads of the request pair
are different byte strings. -/
theorem exSteps_respelled :
    (step exCfg exSt (exEv exMsg)).2.length = 1 ∧ (step exCfg exSt (exEv exMsgSp)).2.length = 1 ∧
    (step exCfg exSt (exEv exRespSp)).2.length = 1 ∧
    (step exCfg exSt (exEv exMsg)).2.map Out.data ≠ (step exCfg exSt (exEv exMsgSp)).2.map Out.data := by
  -- the response pair has as many packets as `exResp` alone (`step_exResp`); the request pair is evaluated
  have hresp : (step exCfg exSt (exEv exRespSp)).2.length = 1 := by
    have h := congrArg List.length (step_respelled exCfg exEv_respelled_resp exSt).2.dest_eq
    obtain ⟨d, hd⟩ := step_exResp
    rw [hd] at h
    simpa using h.symm
  have hreq : (step exCfg exSt (exEv exMsg)).2.length = 1 ∧ (step exCfg exSt (exEv exMsgSp)).2.length = 1 ∧
      (step exCfg exSt (exEv exMsg)).2.map Out.data ≠ (step exCfg exSt (exEv exMsgSp)).2.map Out.data := by
    simp only [fixture]; decide +kernel
  exact ⟨hreq.1, hreq.2.1, hresp, hreq.2.2⟩

/-- … to the same destination (by `step_respelled`), with different bytes -/
example : (step exCfg exSt (exEv exMsgSp)).2.length = 1 ∧ (step exCfg exSt (exEv exRespSp)).2.length = 1 ∧
    (step exCfg exSt (exEv exMsg)).2.map Out.dest = (step exCfg exSt (exEv exMsgSp)).2.map Out.dest ∧
    (step exCfg exSt (exEv exMsg)).2 ≠ (step exCfg exSt (exEv exMsgSp)).2 :=
  ⟨exSteps_respelled.2.1, exSteps_respelled.2.2.1, (step_respelled exCfg exEv_respelled_req exSt).2.dest_eq,
   fun e => exSteps_respelled.2.2.2 (by rw [e])⟩

/-- a request over an inbound TCP connection (stage 3) -/
example := rawConn_respelled exCfg (EvRel.of_msg { exEv exMsg with tcpConn := some 3 } exMsg_MR) exMsg_MR exSt

end Examples

end Lemmas
