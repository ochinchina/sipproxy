/-
Lemmas.Keyed — lists used as maps: lookup by `find? (key · == k)` after removal by
`filter (key · != k)` (`find?_erase`) and after replacing in place (`find?_replace`). The tables of
Proxy.Model (`assocGet/Set/Del`, `pinGet/Add/Del`) are instances: pass `Prod.fst`, `PinEntry.key` as
`key`. Core only.
-/
set_option autoImplicit false

namespace Lemmas.Keyed

variable {α κ : Type} [BEq κ] [LawfulBEq κ] (key : α → κ)

theorem find?_erase [DecidableEq κ] (l : List α) (k' k : κ) :
    (l.filter (fun e => key e != k')).find? (fun e => key e == k) =
      if k' = k then none else l.find? (fun e => key e == k) := by
  rw [List.find?_filter]
  split
  · next h => subst h; simp
  · next h =>
    congr 1; funext e
    by_cases he : key e = k <;> simp [he, Ne.symm h]

theorem find?_replace [DecidableEq κ] (l : List α) (v : α) (k : κ) :
    (l.map (fun e => if key e == key v then v else e)).find? (fun e => key e == k) =
      if key v = k then (l.find? (fun e => key e == k)).map (fun _ => v) else l.find? (fun e => key e == k) := by
  -- replacing keeps every key, so the same entry is found and only then replaced
  have hkey : ∀ e, key (if key e == key v then v else e) = key e := by
    intro e; split <;> simp_all
  have hp : ((fun e => key e == k) ∘ fun e => if key e == key v then v else e) = fun e => key e == k := by
    funext e; simp only [Function.comp, hkey]
  rw [List.find?_map, hp]
  cases h : l.find? (fun e => key e == k) with
  | none => simp
  | some e =>
    have he : key e = k := by simpa using List.find?_some h
    by_cases hk : key v = k
    · simp [he, hk]
    · simp [he, hk, Ne.symm hk]

end Lemmas.Keyed
