/-
Lemmas.Layout — re-layout of the multi-valued routing headers (B5): the list parsers distribute
over comma-joining (`Joins`), hence the routing stacks do not see whether `name: a,b` is written as one
header line or as two consecutive lines `name: a`, `name: b` — PROVIDED both parts decode. When one part
does not decode the two layouts differ (the joined header is lost as a whole, `Joins.of_none`), see the
counterexamples at the end.

Also: what a list getter reads is the head of the stack as soon as every header of the class decodes
(`ListOK` of a slot; `ViaOK`, `RouteOK` are its instances) — the bridge from "same stacks" to "same
decisions" used in Props/C17.

B5 is a section number of Props/C17.lean, whose header lays out the property text (parts A, B).
-/
import Lemmas.Abs
import Lemmas.Bytes
open GoStd Sip

namespace Lemmas

theorem mapM?_append {α β : Type} (f : α → Option β) (l₁ l₂ : List α) :
    mapM? f (l₁ ++ l₂) = (do let x ← mapM? f l₁; let y ← mapM? f l₂; pure (x ++ y)) := by
  induction l₁ with
  | nil => cases h : mapM? f l₂ <;> simp [mapM?, h]
  | cons a as ih =>
    simp only [List.cons_append, mapM?, ih]
    cases f a with
    | none => rfl
    | some b =>
      cases mapM? f as with
      | none => rfl
      | some bs => cases mapM? f l₂ <;> rfl

def Joins {β : Type} (p : Bytes → Option (List β)) : Prop :=
  ∀ a b, p (a ++ [44] ++ b) = (do let x ← p a; let y ← p b; pure (x ++ y))

theorem joins_mapM? {β : Type} (f : Bytes → Option β) : Joins fun s => mapM? f (split 44 s) := fun a b => by
  dsimp only
  rw [List.append_assoc, List.singleton_append, split_append_sep_gen, mapM?_append]

theorem parseVia_join : Joins parseVia := joins_mapM? parseViaParam

theorem parseRoute_join : Joins parseRoute := joins_mapM? parseRouteParam

section Joins
variable {β : Type} {p : Bytes → Option (List β)} (hj : Joins p) {a b : Bytes}
include hj

theorem Joins.of_some {x y : List β} (ha : p a = some x) (hb : p b = some y) : p (a ++ [44] ++ b) = some (x ++ y) := by
  rw [hj, ha, hb]; rfl

theorem Joins.of_none (h : p a = none ∨ p b = none) : p (a ++ [44] ++ b) = none := by
  rw [hj]
  rcases h with h | h
  · rw [h]; rfl
  · rw [h]; cases p a <;> rfl

theorem Joins.parts {v : List β} (h : p (a ++ [44] ++ b) = some v) : ∃ x y, p a = some x ∧ p b = some y ∧ v = x ++ y := by
  rw [hj] at h
  cases ha : p a with
  | none => rw [ha] at h; cases h
  | some x =>
    cases hb : p b with
    | none => rw [ha, hb] at h; cases h
    | some y =>
      rw [ha, hb] at h
      exact ⟨x, y, rfl, rfl, by simpa using h.symm⟩

end Joins

theorem parseVia_join_inv {a b : Bytes} {v : List ViaParam} (h : parseVia (a ++ [44] ++ b) = some v) :
    ∃ x y, parseVia a = some x ∧ parseVia b = some y ∧ v = x ++ y :=
  Joins.parts parseVia_join h

theorem parseRoute_join_inv {a b : Bytes} {v : List RouteParam} (h : parseRoute (a ++ [44] ++ b) = some v) :
    ∃ x y, parseRoute a = some x ∧ parseRoute b = some y ∧ v = x ++ y :=
  Joins.parts parseRoute_join h

/-! #### the usual wire form `a, b` (comma and a blank)

A Via element may be preceded by blanks (`strings.Fields` eats them), so for Via `a, b` decodes like
`a,b`. A Route element keeps everything before `<` as display name, blank included: `a, b` decodes
to the entries of `a,b` with a blank in front of the display name of `b`'s first entry
(`route_blank_display` below) — the hop is the same, the re-encoded header differs by that blank. -/

theorem fields_blank (s : Bytes) : fields (32 :: s) = fields s := rfl

theorem parseViaParam_blank (s : Bytes) : parseViaParam (32 :: s) = parseViaParam s := by
  obtain ⟨p, ps, h, h'⟩ := split_cons_ne (c := 59) (b := 32) (by decide) s
  simp only [parseViaParam, h, h', fields_blank]

theorem parseVia_blank (s : Bytes) : parseVia (32 :: s) = parseVia s := by
  obtain ⟨p, ps, h, h'⟩ := split_cons_ne (c := 44) (b := 32) (by decide) s
  simp only [parseVia, h, h', mapM?, parseViaParam_blank]

theorem parseVia_join_blank (a b : Bytes) :
    parseVia (a ++ [44, 32] ++ b) = (do let x ← parseVia a; let y ← parseVia b; pure (x ++ y)) := by
  have : a ++ [44, 32] ++ b = a ++ [44] ++ (32 :: b) := by simp
  rw [this, parseVia_join, parseVia_blank]

section Stack
variable {α : Type} (cm : List (Bytes × Bytes)) (n : Bytes) (dec : HVal → List α)

/-- Replacing one header by two consecutive ones that are in the class `n` iff it is, and whose
decoded lists concatenate to its own, does not change the stack of `n`. -/
theorem stackOf_split (pre post : List Header) (h h₁ h₂ : Header)
    (c₁ : isSameHeader cm h₁.name n = isSameHeader cm h.name n)
    (c₂ : isSameHeader cm h₂.name n = isSameHeader cm h.name n)
    (hd : dec h.value = dec h₁.value ++ dec h₂.value) :
    stackOf cm n dec (pre ++ h :: post) = stackOf cm n dec (pre ++ h₁ :: h₂ :: post) := by
  simp only [stackOf_append, stackOf, c₁, c₂, hd]
  cases isSameHeader cm h.name n <;> simp

/-- … and a split inside a class that `n` does not overlap is invisible, whatever the values -/
theorem stackOf_split_other (pre post : List Header) (h h₁ h₂ : Header)
    (c : isSameHeader cm h.name n = false) (c₁ : isSameHeader cm h₁.name n = false)
    (c₂ : isSameHeader cm h₂.name n = false) :
    stackOf cm n dec (pre ++ h :: post) = stackOf cm n dec (pre ++ h₁ :: h₂ :: post) := by
  simp [stackOf_append, stackOf, c, c₁, c₂]

end Stack

theorem Slot.vals_raw_join {β : Type} (S : Slot (List β)) (hj : Joins S.parse) {a b : Bytes} {x y : List β}
    (ha : S.parse a = some x) (hb : S.parse b = some y) :
    S.vals (.raw (a ++ [44] ++ b)) = S.vals (.raw a) ++ S.vals (.raw b) := by
  simp only [Slot.vals, Slot.read_raw, hj.of_some ha hb, ha, hb, Option.getD_some]

section Stacks
variable (cm : List (Bytes × Bytes)) (pre post : List Header) (nm nm₁ nm₂ a b : Bytes)

/-- `Via: a,b` ↔ `Via: a` / `Via: b` (three names of the Via class or, pointlessly, three outside it) -/
theorem viaStack_split {x y : List ViaParam} (ha : parseVia a = some x) (hb : parseVia b = some y)
    (c₁ : isSameHeader cm nm₁ viaName = isSameHeader cm nm viaName)
    (c₂ : isSameHeader cm nm₂ viaName = isSameHeader cm nm viaName) :
    viaStack cm (pre ++ { name := nm, value := .raw (a ++ [44] ++ b) } :: post) =
      viaStack cm (pre ++ { name := nm₁, value := .raw a } :: { name := nm₂, value := .raw b } :: post) :=
  stackOf_split cm viaName viaVals pre post _ _ _ c₁ c₂ (viaVals_eq ▸ viaSlot.vals_raw_join parseVia_join ha hb)

theorem routeStack_split {x y : List RouteParam} (ha : parseRoute a = some x) (hb : parseRoute b = some y)
    (c₁ : isSameHeader cm nm₁ routeName = isSameHeader cm nm routeName)
    (c₂ : isSameHeader cm nm₂ routeName = isSameHeader cm nm routeName) :
    routeStack cm (pre ++ { name := nm, value := .raw (a ++ [44] ++ b) } :: post) =
      routeStack cm (pre ++ { name := nm₁, value := .raw a } :: { name := nm₂, value := .raw b } :: post) :=
  stackOf_split cm routeName routeVals pre post _ _ _ c₁ c₂ (routeVals_eq ▸ routeSlot.vals_raw_join parseRoute_join ha hb)

theorem rrStack_split {x y : List RouteParam} (ha : parseRoute a = some x) (hb : parseRoute b = some y)
    (c₁ : isSameHeader cm nm₁ recordRouteName = isSameHeader cm nm recordRouteName)
    (c₂ : isSameHeader cm nm₂ recordRouteName = isSameHeader cm nm recordRouteName) :
    rrStack cm (pre ++ { name := nm, value := .raw (a ++ [44] ++ b) } :: post) =
      rrStack cm (pre ++ { name := nm₁, value := .raw a } :: { name := nm₂, value := .raw b } :: post) :=
  stackOf_split cm recordRouteName rrVals pre post _ _ _ c₁ c₂ (rrVals_eq ▸ rrSlot.vals_raw_join parseRoute_join ha hb)

/-- the same for already decoded values -/
theorem viaStack_split_decoded (x y : List ViaParam)
    (c₁ : isSameHeader cm nm₁ viaName = isSameHeader cm nm viaName)
    (c₂ : isSameHeader cm nm₂ viaName = isSameHeader cm nm viaName) :
    viaStack cm (pre ++ { name := nm, value := .via (x ++ y) } :: post) =
      viaStack cm (pre ++ { name := nm₁, value := .via x } :: { name := nm₂, value := .via y } :: post) :=
  stackOf_split cm viaName viaVals pre post _ _ _ c₁ c₂ rfl

theorem routeStack_split_decoded (x y : List RouteParam)
    (c₁ : isSameHeader cm nm₁ routeName = isSameHeader cm nm routeName)
    (c₂ : isSameHeader cm nm₂ routeName = isSameHeader cm nm routeName) :
    routeStack cm (pre ++ { name := nm, value := .route (x ++ y) } :: post) =
      routeStack cm (pre ++ { name := nm₁, value := .route x } :: { name := nm₂, value := .route y } :: post) :=
  stackOf_split cm routeName routeVals pre post _ _ _ c₁ c₂ rfl

/-- otherwise (a part does not decode): the joined header contributes NOTHING, the two separate
headers contribute whatever decodes -/
theorem viaStack_split_fail (h : parseVia a = none ∨ parseVia b = none)
    (c : isSameHeader cm nm viaName = true) (c₁ : isSameHeader cm nm₁ viaName = true)
    (c₂ : isSameHeader cm nm₂ viaName = true) :
    viaStack cm (pre ++ { name := nm, value := .raw (a ++ [44] ++ b) } :: post) =
      viaStack cm pre ++ viaStack cm post ∧
    viaStack cm (pre ++ { name := nm₁, value := .raw a } :: { name := nm₂, value := .raw b } :: post) =
      viaStack cm pre ++ ((parseVia a).getD [] ++ ((parseVia b).getD [] ++ viaStack cm post)) := by
  have hj : parseVia (a ++ 44 :: b) = none := by simpa using Joins.of_none parseVia_join h
  simp [viaStack, stackOf_append, stackOf, c, c₁, c₂, viaVals, hj]

theorem routeStack_split_fail (h : parseRoute a = none ∨ parseRoute b = none)
    (c : isSameHeader cm nm routeName = true) (c₁ : isSameHeader cm nm₁ routeName = true)
    (c₂ : isSameHeader cm nm₂ routeName = true) :
    routeStack cm (pre ++ { name := nm, value := .raw (a ++ [44] ++ b) } :: post) =
      routeStack cm pre ++ routeStack cm post ∧
    routeStack cm (pre ++ { name := nm₁, value := .raw a } :: { name := nm₂, value := .raw b } :: post) =
      routeStack cm pre ++ ((parseRoute a).getD [] ++ ((parseRoute b).getD [] ++ routeStack cm post)) := by
  have hj : parseRoute (a ++ 44 :: b) = none := by simpa using Joins.of_none parseRoute_join h
  simp [routeStack, stackOf_append, stackOf, c, c₁, c₂, routeVals, hj]

end Stacks

/-! ### what the getters read is the head of the stack

`ListOK cm S hs`: every header of the class of the slot `S` holds a non-empty decoded list, or a string
that decodes — `ViaOK cm` is `ListOK cm viaSlot` and `RouteOK cm` is `ListOK cm routeSlot`, by unfolding.
True of every received message whose headers of the class are well formed; preserved by the pop. Under
it the first element the getter returns is the head of the stack (without it the first header of the
class may fail to decode while the stack, which skips undecodable headers, is not empty). -/

section ListOK
variable (cm : List (Bytes × Bytes)) {β : Type} (S : Slot (List β))

def Slot.Good (v : HVal) : Prop := (∃ w, v = S.inj w ∧ w ≠ []) ∨ ∃ s w, v = .raw s ∧ S.parse s = some w

def ListOK (hs : List Header) : Prop := ∀ h ∈ hs, isSameHeader cm h.name S.name = true → S.Good h.value

theorem Slot.good_of_read {v : HVal} {w : List β} (h : S.read v = some w) (hw : w ≠ []) : S.Good v :=
  (S.read_eq_some h).imp (fun e => ⟨w, e, hw⟩) fun ⟨s, e, hp⟩ => ⟨s, w, e, hp⟩

theorem listOK_append {a b : List Header} : ListOK cm S (a ++ b) ↔ ListOK cm S a ∧ ListOK cm S b :=
  List.forall_mem_append

theorem listOK_cons {h : Header} {t : List Header} : ListOK cm S (h :: t) ↔
    (isSameHeader cm h.name S.name = true → S.Good h.value) ∧ ListOK cm S t :=
  List.forall_mem_cons

theorem listOK_setFirst {hs : List Header} (hok : ListOK cm S hs) (n : Bytes) {w : List β} (hw : w ≠ []) :
    ListOK cm S (setFirst cm hs n (S.inj w)) := fun x hx hc =>
  (mem_setFirst cm _ _ _ x hx).elim (fun hm => hok x hm hc) fun e => Or.inl ⟨w, e, hw⟩

theorem listOK_removeHeader {hs : List Header} (hok : ListOK cm S hs) (n : Bytes) : ListOK cm S (removeHeader cm hs n) :=
  fun x hx => hok x (mem_removeHeader cm _ _ x hx)

theorem listOK_mid {pre post : List Header} (hok : ListOK cm S (pre ++ post)) {x : Header} (hx : S.Good x.value) :
    ListOK cm S (pre ++ x :: post) := by
  rw [listOK_append, listOK_cons]
  exact ⟨((listOK_append cm S).1 hok).1, fun _ => hx, ((listOK_append cm S).1 hok).2⟩

theorem listOK_insertAt {hs : List Header} (hok : ListOK cm S hs) (p : Nat) {x : Header} (hx : S.Good x.value) :
    ListOK cm S (insertAt hs p x) :=
  listOK_mid cm S (by rwa [List.take_append_drop]) hx

/-- `ListOK`, decided; `l` holds the lower-case spellings of the slot's class (`lowerClass`; for the generated
table `real_via`, `real_route`: evaluating the table for every header is dear) -/
def checkListOK (l : List Bytes) (hs : List Header) : Bool :=
  hs.all fun h => !l.contains (toLower h.name) ||
    (match S.read h.value with
     | some v => !v.isEmpty
     | none => false)

theorem listOK_of_check {l : List Bytes} (hl : lowerClass cm S.name = l) {hs : List Header}
    (h : checkListOK S l hs = true) : ListOK cm S hs := by
  intro x hx hx'
  have := List.all_eq_true.mp h x hx
  simp only [← hl, ← isSameHeader_eq_lowerClass, hx', Bool.not_true, Bool.false_or] at this
  cases hv : S.read x.value with
  | none => rw [hv] at this; cases this
  | some v => rw [hv] at this; exact S.good_of_read hv (by intro e; subst e; simp at this)

section
variable (pre post : List Header) (nm nm₁ nm₂ a b : Bytes) {x y : List β} (ha : S.parse a = some x) (hb : S.parse b = some y)
include ha hb

theorem listOK_split (hok : ListOK cm S (pre ++ { name := nm, value := .raw (a ++ [44] ++ b) } :: post)) :
    ListOK cm S (pre ++ { name := nm₁, value := .raw a } :: { name := nm₂, value := .raw b } :: post) := by
  simp only [listOK_append, listOK_cons] at hok ⊢
  exact ⟨hok.1, fun _ => Or.inr ⟨a, x, rfl, ha⟩, fun _ => Or.inr ⟨b, y, rfl, hb⟩, hok.2.2⟩

theorem listOK_join (hj : Joins S.parse)
    (hok : ListOK cm S (pre ++ { name := nm₁, value := .raw a } :: { name := nm₂, value := .raw b } :: post)) :
    ListOK cm S (pre ++ { name := nm, value := .raw (a ++ [44] ++ b) } :: post) := by
  simp only [listOK_append, listOK_cons] at hok ⊢
  exact ⟨hok.1, fun _ => Or.inr ⟨_, _, rfl, hj.of_some ha hb⟩, hok.2.2.2⟩

end

variable (hne : ∀ s v, S.parse s = some v → v ≠ [])
include hne

/-- a parser that yields no empty list (`hne`): what the getter reads off a good value is not empty -/
theorem Slot.Good.read {v : HVal} : S.Good v → ∃ w, S.read v = some w ∧ w ≠ []
  | .inl ⟨w, e, hw⟩ => ⟨w, by rw [e, S.read_inj], hw⟩
  | .inr ⟨s, w, e, hp⟩ => ⟨w, by rw [e, S.read_raw, hp], hne s w hp⟩

/-- under `ListOK` the getter returns no empty list … -/
theorem getLazy_ne_nil_of_ok {m m1 : Message} {v : List β} (hok : ListOK cm S m.headers)
    (hg : getLazy cm S m = some (v, m1)) : v ≠ [] := by
  obtain ⟨hd, hf, hr, -⟩ := getLazy_some cm S hg
  obtain ⟨w, hw, hw0⟩ := (hok hd (findHeader_some cm hf).1 (findHeader_some cm hf).2).read S hne
  exact Option.some.inj (hr.symm.trans hw) ▸ hw0

/-! The stack is taken with any decoder `dec` that is `S.vals`, so that `viaStack` and `routeStack` (with
`viaVals`, `routeVals`) are instances as they stand. -/

variable {dec : HVal → List β} (hdec : dec = S.vals)
include hdec

/-- … and fails only when there is no header of the class -/
theorem stackOf_of_getLazy_none {m : Message} (hok : ListOK cm S m.headers) (hg : getLazy cm S m = none) :
    stackOf cm S.name dec m.headers = [] := by
  subst hdec
  have h1 := getLazy_fst cm S m
  rw [hg] at h1
  cases hf : findHeader cm m.headers S.name with
  | none => exact stackOf_of_find_none cm S.name S.vals _ hf
  | some hd =>
    obtain ⟨v, hv, -⟩ := (hok hd (findHeader_some cm hf).1 (findHeader_some cm hf).2).read S hne
    rw [hf, Option.bind_some, hv] at h1
    cases h1

/-- under `ListOK`: the getter fails iff the stack is empty, and otherwise returns a non-empty list that
is a prefix of the stack -/
theorem getLazy_of_ok {m : Message} (hok : ListOK cm S m.headers) :
    (getLazy cm S m = none ∧ stackOf cm S.name dec m.headers = []) ∨
    ∃ a v m1 rest, getLazy cm S m = some (a :: v, m1) ∧ stackOf cm S.name dec m.headers = a :: v ++ rest := by
  subst hdec
  cases hg : getLazy cm S m with
  | none => exact Or.inl ⟨rfl, stackOf_of_getLazy_none cm S hne rfl hok hg⟩
  | some q =>
    obtain ⟨v, m1⟩ := q
    obtain ⟨rest, hr⟩ := (stackOf_getLazy cm S hg).2
    cases v with
    | nil => exact absurd rfl (getLazy_ne_nil_of_ok cm S hne hok hg)
    | cons a t => exact Or.inr ⟨a, t, m1, rest, rfl, hr⟩

/-- the getter keeps `ListOK` (what it writes back is the non-empty list it returns) and the stack -/
theorem getLazy_keeps_ok {m m1 : Message} {v : List β} (hok : ListOK cm S m.headers)
    (hg : getLazy cm S m = some (v, m1)) :
    ListOK cm S m1.headers ∧ stackOf cm S.name dec m1.headers = stackOf cm S.name dec m.headers := by
  subst hdec
  refine ⟨?_, (stackOf_getLazy cm S hg).1⟩
  have hv := getLazy_ne_nil_of_ok cm S hne hok hg
  obtain ⟨_, _, _, rfl⟩ := getLazy_some cm S hg
  exact listOK_setFirst cm S hok _ hv

theorem getLazy_both {m m' : Message} (hok : ListOK cm S m.headers) (hok' : ListOK cm S m'.headers)
    (hst : stackOf cm S.name dec m.headers = stackOf cm S.name dec m'.headers) :
    (getLazy cm S m = none ∧ getLazy cm S m' = none) ∨
    ∃ v v' m1 m1', getLazy cm S m = some (v, m1) ∧ getLazy cm S m' = some (v', m1') ∧ v.head? = v'.head? := by
  rcases getLazy_of_ok cm S hne hdec hok with ⟨h1, s1⟩ | ⟨a, v, m1, rest, h1, s1⟩ <;>
    rcases getLazy_of_ok cm S hne hdec hok' with ⟨h2, s2⟩ | ⟨a', v', m1', rest', h2, s2⟩
  · exact Or.inl ⟨h1, h2⟩
  · rw [← hst, s1] at s2; cases s2
  · rw [hst, s2] at s1; cases s1
  · rw [hst, s2] at s1
    exact Or.inr ⟨_, _, m1, m1', h1, h2, by simp [(List.cons.inj s1).1]⟩

theorem getLazy_head_of_ok {m : Message} (hok : ListOK cm S m.headers) :
    (getLazy cm S m).bind (fun q => q.1.head?) = (stackOf cm S.name dec m.headers).head? := by
  rcases getLazy_of_ok cm S hne hdec hok with ⟨h1, h2⟩ | ⟨a, v, m1, rest, h1, h2⟩ <;> rw [h1, h2] <;> rfl

theorem popLazy_of_ok {m m1 : Message} (hok : ListOK cm S m.headers) (hp : popLazy cm S m = some m1) :
    ListOK cm S m1.headers ∧ stackOf cm S.name dec m1.headers = (stackOf cm S.name dec m.headers).tail := by
  subst hdec
  obtain ⟨v, m', rest, hg, h1, h2⟩ := stackOf_popLazy cm S hp
  have hok' := (getLazy_keeps_ok cm S hne rfl hok hg).1
  obtain ⟨a, t, rfl⟩ := List.exists_cons_of_ne_nil (getLazy_ne_nil_of_ok cm S hne hok hg)
  refine ⟨?_, by rw [h2, h1]; rfl⟩
  unfold popLazy at hp
  rw [hg] at hp
  dsimp only at hp
  split at hp <;> cases hp
  · rename_i hl
    exact listOK_setFirst cm S hok' _ fun e : t = [] => by simp [e] at hl
  · exact listOK_removeHeader cm S hok' _

theorem popLazy_none_of_ok {m : Message} (hok : ListOK cm S m.headers) (hp : popLazy cm S m = none) :
    stackOf cm S.name dec m.headers = [] := by
  cases hg : getLazy cm S m with
  | none => exact stackOf_of_getLazy_none cm S hne hdec hok hg
  | some q => have h := popLazy_isSome cm S m; rw [hp, hg] at h; cases h

theorem popLazy_both {m m' : Message} (hok : ListOK cm S m.headers) (hok' : ListOK cm S m'.headers)
    (hst : stackOf cm S.name dec m.headers = stackOf cm S.name dec m'.headers) :
    (popLazy cm S m = none ∧ popLazy cm S m' = none) ∨
    ∃ m1 m1', popLazy cm S m = some m1 ∧ popLazy cm S m' = some m1' := by
  have e := popLazy_isSome cm S m
  have e' := popLazy_isSome cm S m'
  rcases getLazy_both cm S hne hdec hok hok' hst with ⟨h1, h2⟩ | ⟨v, v', m1, m1', h1, h2, _⟩ <;> rw [h1] at e <;> rw [h2] at e'
  · exact Or.inl ⟨by simpa using e, by simpa using e'⟩
  · obtain ⟨x, hx⟩ := Option.isSome_iff_exists.1 e
    obtain ⟨x', hx'⟩ := Option.isSome_iff_exists.1 e'
    exact Or.inr ⟨x, x', hx, hx'⟩

end ListOK

/-! #### Via and Route

`ViaOK hs`: every Via-class header holds a non-empty decoded list or a string that decodes; `RouteOK`
the same for Route. -/

section Heads
variable (cm : List (Bytes × Bytes))

def ViaOK (hs : List Header) : Prop :=
  ∀ h ∈ hs, isSameHeader cm h.name viaName = true →
    (∃ v, h.value = .via v ∧ v ≠ []) ∨ ∃ s v, h.value = .raw s ∧ parseVia s = some v

def RouteOK (hs : List Header) : Prop :=
  ∀ h ∈ hs, isSameHeader cm h.name routeName = true →
    (∃ r, h.value = .route r ∧ r ≠ []) ∨ ∃ s r, h.value = .raw s ∧ parseRoute s = some r

theorem viaOK_iff (hs : List Header) : ViaOK cm hs ↔ ListOK cm viaSlot hs := Iff.rfl

theorem routeOK_iff (hs : List Header) : RouteOK cm hs ↔ ListOK cm routeSlot hs := Iff.rfl

theorem getVia_of_viaOK {m : Message} (hok : ViaOK cm m.headers) :
    (getVia cm m = none ∧ viaStack cm m.headers = []) ∨
    ∃ vp v m1 rest, getVia cm m = some (vp :: v, m1) ∧ viaStack cm m.headers = vp :: v ++ rest :=
  getVia_eq cm m ▸ getLazy_of_ok cm viaSlot parseVia_ne_nil viaVals_eq hok

theorem getRoute_of_routeOK {m : Message} (hok : RouteOK cm m.headers) :
    (getRoute cm m = none ∧ routeStack cm m.headers = []) ∨
    ∃ rp r m1 rest, getRoute cm m = some (rp :: r, m1) ∧ routeStack cm m.headers = rp :: r ++ rest :=
  getRoute_eq cm m ▸ getLazy_of_ok cm routeSlot parseRoute_ne_nil routeVals_eq hok

theorem getVia_head_of_viaOK {m : Message} (hok : ViaOK cm m.headers) :
    (getVia cm m).bind (fun p => p.1.head?) = (viaStack cm m.headers).head? :=
  getVia_eq cm m ▸ getLazy_head_of_ok cm viaSlot parseVia_ne_nil viaVals_eq hok

theorem getRoute_head_of_routeOK {m : Message} (hok : RouteOK cm m.headers) :
    (getRoute cm m).bind (fun p => p.1.head?) = (routeStack cm m.headers).head? :=
  getRoute_eq cm m ▸ getLazy_head_of_ok cm routeSlot parseRoute_ne_nil routeVals_eq hok

theorem popVia_of_viaOK {m m1 : Message} (hok : ViaOK cm m.headers) (hp : popVia cm m = some m1) :
    ViaOK cm m1.headers ∧ viaStack cm m1.headers = (viaStack cm m.headers).tail :=
  popLazy_of_ok cm viaSlot parseVia_ne_nil viaVals_eq hok (popVia_eq cm m ▸ hp)

theorem popVia_none_of_viaOK {m : Message} (hok : ViaOK cm m.headers) (hp : popVia cm m = none) :
    viaStack cm m.headers = [] :=
  popLazy_none_of_ok cm viaSlot parseVia_ne_nil viaVals_eq hok (popVia_eq cm m ▸ hp)

theorem viaOK_split (pre post : List Header) (nm nm₁ nm₂ a b : Bytes) {x y : List ViaParam}
    (ha : parseVia a = some x) (hb : parseVia b = some y)
    (hok : ViaOK cm (pre ++ { name := nm, value := .raw (a ++ [44] ++ b) } :: post)) :
    ViaOK cm (pre ++ { name := nm₁, value := .raw a } :: { name := nm₂, value := .raw b } :: post) :=
  listOK_split cm viaSlot pre post nm nm₁ nm₂ a b ha hb hok

theorem viaOK_join (pre post : List Header) (nm nm₁ nm₂ a b : Bytes) {x y : List ViaParam}
    (ha : parseVia a = some x) (hb : parseVia b = some y)
    (hok : ViaOK cm (pre ++ { name := nm₁, value := .raw a } :: { name := nm₂, value := .raw b } :: post)) :
    ViaOK cm (pre ++ { name := nm, value := .raw (a ++ [44] ++ b) } :: post) :=
  listOK_join cm viaSlot pre post nm nm₁ nm₂ a b ha hb parseVia_join hok

theorem routeOK_split (pre post : List Header) (nm nm₁ nm₂ a b : Bytes) {x y : List RouteParam}
    (ha : parseRoute a = some x) (hb : parseRoute b = some y)
    (hok : RouteOK cm (pre ++ { name := nm, value := .raw (a ++ [44] ++ b) } :: post)) :
    RouteOK cm (pre ++ { name := nm₁, value := .raw a } :: { name := nm₂, value := .raw b } :: post) :=
  listOK_split cm routeSlot pre post nm nm₁ nm₂ a b ha hb hok

theorem routeOK_join (pre post : List Header) (nm nm₁ nm₂ a b : Bytes) {x y : List RouteParam}
    (ha : parseRoute a = some x) (hb : parseRoute b = some y)
    (hok : RouteOK cm (pre ++ { name := nm₁, value := .raw a } :: { name := nm₂, value := .raw b } :: post)) :
    RouteOK cm (pre ++ { name := nm, value := .raw (a ++ [44] ++ b) } :: post) :=
  listOK_join cm routeSlot pre post nm nm₁ nm₂ a b ha hb parseRoute_join hok

end Heads

section Examples

def exViaA : Bytes := str "SIP/2.0/UDP a:5070;branch=z1"
def exViaB : Bytes := str "SIP/2.0/TCP b"
def exRouteA : Bytes := str "<sip:p1;lr>"
def exRouteB : Bytes := str "<sip:p2:5080;transport=tcp>"

attribute [fixture] exViaA exViaB exRouteA exRouteB

/-- the spellings of the Via and Route classes the examples use, by the class characterisations of the
generated table -/
theorem via_spellings : isSameHeader realCm (str "v") viaName = true ∧ isSameHeader realCm (str "Via") viaName = true ∧
    isSameHeader realCm (str "VIA") viaName = true := by
  simp only [isSameHeader_eq_lowerClass, real_via]; simp only [fixture]; decide +kernel

theorem route_spellings : isSameHeader realCm (str "Route") routeName = true ∧
    isSameHeader realCm (str "ROUTE") routeName = true := by
  simp only [isSameHeader_eq_lowerClass, real_route]; simp only [fixture]; decide +kernel

/-- both parts decode: hypotheses of `Joins.of_some`, `viaStack_split`, `viaOK_split` -/
example : (parseVia exViaA).isSome = true ∧ (parseVia exViaB).isSome = true ∧
    (parseRoute exRouteA).isSome = true ∧ (parseRoute exRouteB).isSome = true := by simp only [fixture]; decide +kernel

example : (parseVia (exViaA ++ [44] ++ exViaB)).map (·.map (·.host)) = some [str "a", str "b"] := by simp only [fixture]; decide +kernel

/-- `ViaOK` / `RouteOK` hold for the example message of `Lemmas.Abs` -/
example : ViaOK realCm exMsg.headers := listOK_of_check realCm viaSlot real_via (by simp only [fixture]; decide +kernel)

theorem parts_of_isSome {α β : Type} {x : Option α} {y : Option β} (h : x.isSome = true ∧ y.isSome = true) :
    ∃ a b, x = some a ∧ y = some b :=
  let ⟨a, ha⟩ := Option.isSome_iff_exists.mp h.1
  let ⟨b, hb⟩ := Option.isSome_iff_exists.mp h.2
  ⟨a, b, ha, hb⟩

theorem exVia_parts : ∃ x y, parseVia exViaA = some x ∧ parseVia exViaB = some y :=
  parts_of_isSome (by simp only [fixture]; decide +kernel)

theorem exRoute_parts : ∃ x y, parseRoute exRouteA = some x ∧ parseRoute exRouteB = some y :=
  parts_of_isSome (by simp only [fixture]; decide +kernel)

/-- `viaStack_split` on concrete lists: `Via: a,b` against `v: a`, `VIA: b` -/
example : viaStack realCm ([] ++ { name := str "Via", value := .raw (exViaA ++ [44] ++ exViaB) } :: []) =
    viaStack realCm ([] ++ { name := str "v", value := .raw exViaA } :: { name := str "VIA", value := .raw exViaB } :: []) := by
  obtain ⟨x, y, hx, hy⟩ := exVia_parts
  obtain ⟨c₁, c, c₂⟩ := via_spellings
  exact viaStack_split realCm [] [] _ _ _ _ _ hx hy (by rw [c₁, c]) (by rw [c₂, c])

/-- … and the stack in question has two entries -/
example : (viaStack realCm [{ name := str "v", value := .raw exViaA }, { name := str "VIA", value := .raw exViaB }]).length = 2 := by
  simp only [fixture]; decide +kernel

example : RouteOK realCm exMsg.headers := listOK_of_check realCm routeSlot real_route (by simp only [fixture]; decide +kernel)

/-- `popVia_none_of_viaOK`: a message without Via headers -/
example : ViaOK realCm [({ name := str "To", value := .raw [] } : Header)] ∧
    popVia realCm { start := .status [] 200 [], body := [], headers := [{ name := str "To", value := .raw [] }] } = none := by
  exact ⟨listOK_of_check realCm viaSlot real_via (by simp only [fixture]; decide +kernel), by simp only [fixture]; decide +kernel⟩

/-- hypotheses of `parseVia_join_inv` / `Joins.of_none` -/
example : (parseVia (exViaA ++ [44] ++ exViaB)).isSome = true ∧ parseVia (str "junk") = none := by simp only [fixture]; decide +kernel

/-- the blank after the comma: for Via it is eaten … -/
example : parseVia (exViaA ++ [44, 32] ++ exViaB) = parseVia (exViaA ++ [44] ++ exViaB) := by
  rw [parseVia_join_blank, parseVia_join]

/-- … for Route it ends up in the display name of the entry behind it -/
theorem route_blank_display :
    (parseRoute (exRouteA ++ [44, 32] ++ exRouteB)).map (·.map (·.nameAddr.display)) = some [[], [32]] ∧
    (parseRoute (exRouteA ++ [44] ++ exRouteB)).map (·.map (·.nameAddr.display)) = some [[], []] := by
  simp only [fixture]; decide +kernel

/-- a part that does not decode: the joined header yields nothing, the split one yields the good part -/
theorem split_fail_differs :
    viaStack realCm [{ name := str "Via", value := .raw (exViaB ++ [44] ++ str "junk") }] = [] ∧
    (viaStack realCm [{ name := str "Via", value := .raw exViaB }, { name := str "Via", value := .raw (str "junk") }]).map
      (·.host) = [str "b"] := by simp only [fixture]; decide +kernel

/-- … and the typed getter sees the difference: none against the entry `b` -/
theorem split_fail_getVia :
    (getVia realCm { start := .status [] 200 [], body := [],
                     headers := [{ name := str "Via", value := .raw (exViaB ++ [44] ++ str "junk") }] }).isSome = false ∧
    ((getVia realCm { start := .status [] 200 [], body := [],
                      headers := [{ name := str "Via", value := .raw exViaB },
                                  { name := str "Via", value := .raw (str "junk") }] }).map
        (fun p => p.1.map (·.host))) = some [str "b"] := by simp only [fixture]; decide +kernel

/-- without `ViaOK` the head of the stack is not what `getVia` reads: an undecodable first Via header
hides the decodable one behind it from the getter, but not from the stack -/
theorem head_needs_viaOK :
    let m : Message := { start := .status [] 200 [], body := [],
                         headers := [{ name := str "Via", value := .raw (str "junk") },
                                     { name := str "Via", value := .raw exViaB }] }
    (getVia realCm m).isSome = false ∧ (viaStack realCm m.headers).map (·.host) = [str "b"] := by simp only [fixture]; decide +kernel

end Examples

end Lemmas
