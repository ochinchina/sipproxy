/-
Lemmas.Keeps — the one-run lifting: a reflexive, transitive relation `Q` between a message and what
a computation made of it, respected by the primitive header operations a function of the pipeline
uses, relates the input of that function to the message it returns. One lemma per function
(`keeps_*`), whatever `Q`; for the functions that only decode CSeq, Via, From, To in place the lemma
says that the message returned is `Decoded` from the input (`decoded_*`).

`Frame p obs` is the `Q` used throughout: same start line, same body, and `obs` sees the same on the
headers whose name `p` selects.
-/
import Lemmas.Stages
import Lemmas.Hdr
open GoStd Sip Proxy

namespace Lemmas

section Lift
variable {Q : Message → Message → Prop} (hQ : Pre Q)
include hQ

variable (cm : List (Bytes × Bytes))

theorem keeps_getMethod (qC : Keeps Q (getCSeq cm)) : Keeps Q (getMethod cm) := by
  intro m x m' h
  unfold getMethod at h
  split at h
  · cases h; exact hQ.refl m
  · split at h
    · cases h
    · rename_i c m1 hc
      cases h
      exact qC hc

theorem keeps_getClientTransaction (qC : Keeps Q (getCSeq cm)) (qV : Keeps Q (getVia cm)) (m : Message) :
    Q m (getClientTransaction cm m).2 := by
  unfold getClientTransaction
  split
  · exact hQ.refl m
  · rename_i c m1 hc
    have h1 := qC hc
    split
    · exact h1
    · rename_i v m2 hv
      have h2 := hQ.trans h1 (qV hv)
      split
      · exact h2
      · split <;> exact h2

variable (cfg : Cfg)

theorem keeps_getNextResponseHop (qV : Keeps Q (getVia cfg.cm)) (m : Message) :
    Q m (getNextResponseHop cfg m).2 := by
  unfold getNextResponseHop
  split
  · exact hQ.refl m
  · rename_i v m1 hv
    have h1 := qV hv
    split
    · exact h1
    · split <;> exact h1

theorem keeps_rawOwnRoute (qR : Keeps Q (getRoute cfg.cm)) (qP : KeepsO Q (popRoute cfg.cm))
    (ev : RawEv) (m : Message) : Q m (rawOwnRoute cfg ev m) := by
  unfold rawOwnRoute
  split
  · exact hQ.refl m
  · rename_i r m1 hr
    have h1 := qR hr
    split
    · exact h1
    · split
      · exact h1
      · split
        · exact hQ.trans h1 (hQ.getD qP m1)
        · exact h1

theorem keeps_getNextRequestHopByRoute (qR : Keeps Q (getRoute cfg.cm)) (qP : KeepsO Q (popRoute cfg.cm))
    (m : Message) : Q m (getNextRequestHopByRoute cfg m).2 := by
  unfold getNextRequestHopByRoute
  split
  · exact hQ.refl m
  · rename_i r m1 hr
    have h1 := qR hr
    split
    · exact h1
    · have h2 : Q m (if !cfg.keepNextHopRoute then (popRoute cfg.cm m1).getD m1 else m1) := by
        split
        · exact hQ.trans h1 (hQ.getD qP m1)
        · exact h1
      simp only []
      split <;> exact h2

theorem keeps_getNextRequestHopByConfig (qT : Keeps Q (getTo cfg.cm)) (m : Message) :
    Q m (getNextRequestHopByConfig cfg m).2 := by
  unfold getNextRequestHopByConfig
  split
  · exact hQ.refl m
  · rename_i t m1 ht
    have h1 := qT ht
    split
    · exact h1
    · split <;> exact h1

/-- what `getNextRequestHop` adds to the Route step: the static-route lookup, when there was no hop -/
theorem keeps_getNextRequestHop_config (qT : Keeps Q (getTo cfg.cm)) (m : Message) :
    Q (getNextRequestHopByRoute cfg m).2 (getNextRequestHop cfg m).2 := by
  unfold getNextRequestHop
  split
  · rename_i h m1 he; rw [he]; exact hQ.refl m1
  · rename_i m1 he; rw [he]; exact keeps_getNextRequestHopByConfig hQ cfg qT m1

theorem keeps_getNextRequestHop (qR : Keeps Q (getRoute cfg.cm)) (qP : KeepsO Q (popRoute cfg.cm))
    (qT : Keeps Q (getTo cfg.cm)) (m : Message) : Q m (getNextRequestHop cfg m).2 :=
  hQ.trans (keeps_getNextRequestHopByRoute hQ cfg qR qP m) (keeps_getNextRequestHop_config hQ cfg qT m)

theorem keeps_insertSelf (qA : ∀ m vp, Q m (addVia cfg.cm m vp)) (qRR : ∀ m rr, Q m (addRecordRoute cfg.cm m rr))
    (m : Message) (t : Listener) (br : Bytes) : Q m (insertSelf cfg m t br) := by
  unfold insertSelf
  simp only []
  split
  · exact qA m _
  · exact hQ.trans (qA m _) (qRR _ _)

theorem keeps_rawLearn (qE : ∀ m : Message, Q m { m with headers := (forEachViaHeaders cfg.cm m.headers).1 })
    (st : St) (ev : RawEv) : Q ev.msg (rawLearn cfg st ev).2 := by
  unfold rawLearn
  split
  · -- the model destructures the pair with a `let`; splitting the pair makes both sides agree
    have := qE ev.msg
    revert this
    rcases forEachViaHeaders cfg.cm ev.msg.headers with ⟨hs, vs⟩
    exact id
  · exact hQ.refl _

theorem keeps_rawStamp (qS : ∀ m ip port, Q m (setReceived cfg.cm m ip port)) (ev : RawEv) (m : Message) :
    Q m (rawStamp cfg ev m) := by
  unfold rawStamp
  split
  · exact qS m _ _
  · exact hQ.refl m

theorem keeps_rawConn (qV : Keeps Q (getVia cfg.cm)) (qC : Keeps Q (getCSeq cfg.cm))
    (st : St) (ev : RawEv) (m : Message) : Q m (rawConn cfg st ev m).2 := by
  unfold rawConn
  split
  · have h1 := keeps_getNextResponseHop hQ cfg qV m
    split
    · rename_i m' he; rw [he] at h1; exact h1
    · rename_i hop m' he
      rw [he] at h1
      have h2 := hQ.trans h1 (keeps_getClientTransaction hQ cfg.cm qC qV m')
      split
      · rename_i m'' he2; rw [he2] at h2; exact h2
      · rename_i tid m'' he2
        rw [he2] at h2
        split <;> exact h2
  · exact hQ.refl m

/-- `handleRawMessage`: all Via headers decoded, the top one stamped, CSeq and Via read, the own Route
entry popped -/
theorem keeps_handleRawMessage' (qE : ∀ m : Message, Q m { m with headers := (forEachViaHeaders cfg.cm m.headers).1 })
    (qS : ∀ m ip port, Q m (setReceived cfg.cm m ip port)) (qV : Keeps Q (getVia cfg.cm))
    (qC : Keeps Q (getCSeq cfg.cm)) (qR : Keeps Q (getRoute cfg.cm)) (qP : KeepsO Q (popRoute cfg.cm))
    (st : St) (ev : RawEv) : Q ev.msg (handleRawMessage cfg st ev).2 := by
  rw [handleRawMessage_msg]
  exact hQ.trans (hQ.trans (hQ.trans (keeps_rawLearn hQ cfg qE st ev) (keeps_rawStamp hQ cfg qS ev _))
    (keeps_rawConn hQ cfg qV qC st ev _)) (keeps_rawOwnRoute hQ cfg qR qP ev _)

end Lift

/-! #### the shape of what `handleMessage` sends: surgery, then in-place decoding only -/

/-- `Q` is respected by the four getters that only ever decode in place on the way of a message
through `handleDialog` and the sending functions -/
structure Decodes (cm : List (Bytes × Bytes)) (Q : Message → Message → Prop) : Prop extends Pre Q where
  getCSeq : Keeps Q (getCSeq cm)
  getVia : Keeps Q (getVia cm)
  getFrom : Keeps Q (getFrom cm)
  getTo : Keeps Q (getTo cm)

/-- `m'` is `m` with some of its CSeq, Via, From, To headers decoded in place: whatever relation the
four decode-only getters respect holds between the two -/
def Decoded (cm : List (Bytes × Bytes)) (m m' : Message) : Prop :=
  ∀ {Q : Message → Message → Prop}, Decodes cm Q → Q m m'

section Shape
variable (cm : List (Bytes × Bytes))

theorem decoded_getDialog (m : Message) : Decoded cm m (getDialog cm m).2 := by
  intro Q D
  unfold getDialog
  split
  · exact D.refl m
  · split
    · exact D.refl m
    · rename_i f m1 hf
      have h1 := D.getFrom hf
      split
      · exact h1
      · split
        · exact h1
        · rename_i t m2 ht
          have h2 := D.trans h1 (D.getTo ht)
          split
          · exact h2
          · split <;> exact h2

variable (cfg : Cfg)

theorem decoded_dialogBackend (st : St) (addr : Bytes) (m : Message) :
    Decoded cfg.cm m (dialogBackend cfg st addr m).2.2 := by
  intro Q D
  unfold dialogBackend
  have h := keeps_getClientTransaction D.toPre cfg.cm D.getCSeq D.getVia m
  split
  · exact D.refl m
  · split
    · rename_i m' he; rw [he] at h; exact h
    · rename_i tid m' he; rw [he] at h; exact h

theorem decoded_dialogPin (st : St) (backend : Option BackendRef) (pins1 : List PinEntry) (m1 : Message) :
    Decoded cfg.cm m1 (dialogPin cfg st backend pins1 m1).2 := by
  intro Q D
  rw [dialogPin_eq]
  split
  · rename_i method m2 hm
    have h1 := keeps_getMethod D.toPre cfg.cm D.getCSeq hm
    split
    · exact D.trans h1 (decoded_getDialog cfg.cm m2 D)
    · exact h1
  · exact D.refl m1

theorem decoded_respPin (st : St) (hop : Option Hop) (m : Message) : Decoded cfg.cm m (respPin cfg st hop m).2 := by
  intro Q D
  rw [respPin_eq]
  split
  · rename_i method m' hm
    have h1 := keeps_getMethod D.toPre cfg.cm D.getCSeq hm
    generalize (method == str "SUBSCRIBE" && st.backends.contains _) = b
    cases b
    · exact h1
    · exact D.trans h1 (decoded_getDialog cfg.cm m' D)
  · exact D.refl m

theorem decoded_findBackendByDialog (st : St) (m : Message) : Decoded cfg.cm m (findBackendByDialog cfg st m).2.2 := by
  intro Q D
  unfold findBackendByDialog
  have h1 := decoded_getDialog cfg.cm m D
  split
  · split
    · rename_i m1 he; rw [he] at h1; exact h1
    · rename_i d m1 he; rw [he] at h1; exact h1
  · exact D.refl m

/-- `handleDialog` only decodes CSeq, Via, From, To -/
theorem keeps_handleDialog {Q : Message → Message → Prop} (D : Decodes cfg.cm Q)
    (st : St) (a : Bytes) (p : Int) (m : Message) : Q m (handleDialog cfg st a p m).2 := by
  rw [handleDialog_eq]
  split
  · exact D.refl m
  · exact D.trans (decoded_dialogBackend cfg st _ m D) (decoded_dialogPin cfg st _ _ _ D)

/-- A request: the packet prints a message that is — up to decoding in place — the routed request
with the proxy's own entries for `self` inserted, if there is a `self`: the backend item's first
listener for a packet to a backend, the listener learned for the hop otherwise. -/
theorem handleMessage_request_shape (st : St) (ev : RawEv) (m : Message) (hreq : isRequest m = true)
    (o : Out) (ho : o ∈ (handleMessage cfg st ev m).2) :
    ∃ (self : Option Listener) (m1 m' : Message), o.data = m'.bytes cfg.cm ∧
      Decoded cfg.cm (getNextRequestHop cfg m).2 m1 ∧
      Decoded cfg.cm (match self with | some t => insertSelf cfg m1 t ev.branch | none => m1) m' ∧
      (if o.isBackend then (getNextRequestHop cfg m).1 = none ∧ self = cfg.transports0 ∧ self.isSome = true
       else ∃ hop, (getNextRequestHop cfg m).1 = some hop ∧ self = assocGet st.learned hop.host) := by
  rw [handleMessage_request cfg st ev m hreq] at ho
  rcases hh : getNextRequestHop cfg m with ⟨hop, m1⟩
  rw [hh] at ho
  cases hop with
  | some hop =>
    obtain ⟨hd, hb⟩ := sendMessage_mem cfg _ _ _ o ho
    refine ⟨assocGet st.learned hop.host, m1, _, hd, fun D => D.refl _,
      fun D => keeps_getClientTransaction D.toPre cfg.cm D.getCSeq D.getVia _, ?_⟩
    simp only [hb, Bool.false_eq_true, ↓reduceIte]
    exact ⟨hop, rfl, rfl⟩
  | none =>
    simp only [] at ho
    split at ho
    · obtain ⟨t0, a, ht, rfl⟩ := sendToBackend_mem cfg _ _ _ o ho
      exact ⟨some t0, _, _, rfl, decoded_findBackendByDialog cfg st m1,
        fun D => D.refl _, (if_pos rfl).mpr ⟨rfl, ht.symm, rfl⟩⟩
    · cases ho

/-- A response: nothing is sent unless a hop can be read after the pop; the packet then prints —
up to decoding in place — the response without its top Via entry, and goes to that hop. -/
theorem handleMessage_response_shape (st : St) (ev : RawEv) (m : Message) (hresp : isRequest m = false)
    (o : Out) (ho : o ∈ (handleMessage cfg st ev m).2) :
    ∃ (hop : Hop) (m' : Message), (getNextResponseHop cfg ((popVia cfg.cm m).getD m)).1 = some hop ∧
      o.data = m'.bytes cfg.cm ∧ Decoded cfg.cm (getNextResponseHop cfg ((popVia cfg.cm m).getD m)).2 m' ∧
      ∃ st1 m3, handleMessage cfg st ev m = sendMessage cfg st1 hop m3 := by
  have heq := handleMessage_response cfg st ev m hresp
  rw [heq] at ho
  split at ho
  · cases ho
  · rename_i h hh
    rw [hh] at heq
    exact ⟨h, _, hh, (sendMessage_mem cfg _ _ _ o ho).1,
      fun D => D.trans (decoded_respPin cfg st _ _ D)
        (keeps_getClientTransaction D.toPre cfg.cm D.getCSeq D.getVia _), _, _, heq⟩

end Shape

/-- `Q` is respected by every primitive header operation the pipeline uses -/
structure Steps (cm : List (Bytes × Bytes)) (Q : Message → Message → Prop) : Prop extends Decodes cm Q where
  getRoute : Keeps Q (getRoute cm)
  popVia : KeepsO Q (popVia cm)
  popRoute : KeepsO Q (popRoute cm)
  setReceived : ∀ m ip port, Q m (setReceived cm m ip port)
  addVia : ∀ m vp, Q m (addVia cm m vp)
  addRecordRoute : ∀ m rr, Q m (addRecordRoute cm m rr)
  forEachVia : ∀ m : Message, Q m { m with headers := (forEachViaHeaders cm m.headers).1 }

section Whole
variable {Q : Message → Message → Prop} (cfg : Cfg) (K : Steps cfg.cm Q)
include K

theorem keeps_handleRawMessage (st : St) (ev : RawEv) : Q ev.msg (handleRawMessage cfg st ev).2 :=
  keeps_handleRawMessage' K.toPre cfg K.forEachVia K.setReceived K.getVia K.getCSeq K.getRoute K.popRoute st ev

theorem handleMessage_carries (st : St) (ev : RawEv) (m : Message) :
    ∀ o ∈ (handleMessage cfg st ev m).2, ∃ m', Q m m' ∧ o.data = m'.bytes cfg.cm := by
  intro o ho
  cases hreq : isRequest m with
  | true =>
    obtain ⟨self, m1, m', hd, q1, q2, _⟩ := handleMessage_request_shape cfg st ev m hreq o ho
    refine ⟨m', K.trans (K.trans (K.trans
      (keeps_getNextRequestHop K.toPre cfg K.getRoute K.popRoute K.getTo m) (q1 K.toDecodes)) ?_)
      (q2 K.toDecodes), hd⟩
    cases self with
    | none => exact K.refl _
    | some t => exact keeps_insertSelf K.toPre cfg K.addVia K.addRecordRoute _ _ _
  | false =>
    obtain ⟨_, m', _, hd, q, _⟩ := handleMessage_response_shape cfg st ev m hreq o ho
    exact ⟨m', K.trans (K.trans (K.toPre.getD K.popVia m)
      (keeps_getNextResponseHop K.toPre cfg K.getVia _)) (q K.toDecodes), hd⟩

theorem step_carries (st : St) (ev : RawEv) :
    ∀ o ∈ (step cfg st ev).2, ∃ m', Q ev.msg m' ∧ o.data = m'.bytes cfg.cm := by
  intro o ho
  rw [step_eq] at ho
  obtain ⟨m', q, hd⟩ := handleMessage_carries cfg K _ ev _ o ho
  exact ⟨m', K.trans (K.trans (keeps_handleRawMessage cfg K st ev)
    (keeps_handleDialog cfg K.toDecodes _ _ _ _)) q, hd⟩

end Whole


section FrameSteps
variable {β : Type} (p : Bytes → Bool) (obs : Header → β) (cm : List (Bytes × Bytes))

theorem frame_decodes (bC : Blind p obs cm cseqSlot) (bV : Blind p obs cm viaSlot)
    (bF : Blind p obs cm fromSlot) (bT : Blind p obs cm toSlot) : Decodes cm (Frame p obs) where
  toPre := frame_pre p obs
  getCSeq := frame_getCSeq p obs cm bC
  getVia := frame_getVia p obs cm bV
  getFrom := frame_getFrom p obs cm bF
  getTo := frame_getTo p obs cm bT

/-- the whole pipeline respects `Frame p obs` when `p` selects no Via, Route or Record-Route header
and `obs` cannot see a From, To or CSeq being decoded -/
theorem frame_steps (hV : Hidden p cm viaName) (hR : Hidden p cm routeName) (hRR : Hidden p cm recordRouteName)
    (bF : Blind p obs cm fromSlot) (bT : Blind p obs cm toSlot) (bC : Blind p obs cm cseqSlot) :
    Steps cm (Frame p obs) where
  toDecodes := frame_decodes p obs cm bC (hV.blind obs) bF bT
  getRoute := frame_getRoute p obs cm (hR.blind obs)
  popVia := frame_popVia p obs cm hV
  popRoute := frame_popRoute p obs cm hR
  setReceived := frame_setReceived p obs cm hV
  addVia := frame_addVia p obs cm hV
  addRecordRoute := frame_addRecordRoute p obs cm hRR
  forEachVia := frame_forEachVia p obs cm (hV.blind obs)

/-- no operation touches the start line or the body: the frame that selects no header -/
theorem bare_steps : Steps cm (Frame (fun _ => false) (id : Header → Header)) :=
  frame_steps _ _ cm (fun _ _ => rfl) (fun _ _ => rfl) (fun _ _ => rfl)
    (fun _ _ _ _ _ => Or.inl rfl) (fun _ _ _ _ _ => Or.inl rfl) (fun _ _ _ _ _ => Or.inl rfl)

end FrameSteps

end Lemmas
