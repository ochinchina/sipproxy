/-
Lemmas.Num — decimal printing and parsing are inverse: atoi (itoa n) = n for 0 ≤ n ≤ 2^63 - 1.
-/
import GoStd.Bytes
open GoStd

namespace Lemmas

/-- the byte of a decimal digit: no wrap-around below 256 -/
theorem digit_toNat (n : Nat) (h : n < 10) : (UInt8.ofNat (48 + n)).toNat = 48 + n := by
  rw [UInt8.toNat_ofNat']; omega

theorem digit_isDigit (n : Nat) (h : n < 10) : isDigit (UInt8.ofNat (48 + n)) = true := by
  have h48 : (48 : UInt8).toNat = 48 := rfl
  have h57 : (57 : UInt8).toNat = 57 := rfl
  simp only [isDigit, Bool.and_eq_true, decide_eq_true_eq, UInt8.le_iff_toNat_le, digit_toNat n h, h48, h57]
  omega

theorem digit_val (n : Nat) (h : n < 10) : (UInt8.ofNat (48 + n)).toNat - 48 = n := by
  rw [digit_toNat n h]; omega

theorem foldl_digits_append (ds : Bytes) (acc : Nat) :
    ds.foldl (fun a d => a * 10 + (d.toNat - 48)) acc = acc * 10 ^ ds.length + digitsVal ds := by
  induction ds generalizing acc with
  | nil => simp [digitsVal]
  | cons d ds ih =>
    simp only [List.foldl_cons, digitsVal, List.length_cons]
    rw [ih, ih (0 * 10 + (d.toNat - 48))]
    rw [Nat.pow_succ]
    simp only [Nat.zero_mul, Nat.zero_add]
    rw [Nat.add_mul, Nat.mul_assoc, Nat.mul_comm 10 (10 ^ ds.length)]
    omega

theorem digitsVal_cons (d : UInt8) (ds : Bytes) :
    digitsVal (d :: ds) = (d.toNat - 48) * 10 ^ ds.length + digitsVal ds := by
  simp only [digitsVal, List.foldl_cons]
  have := foldl_digits_append ds (0 * 10 + (d.toNat - 48))
  simp only [Nat.zero_mul, Nat.zero_add] at this
  simpa [digitsVal] using this

theorem natDigitsAux_spec (fuel n : Nat) (acc : Bytes) (hf : n < fuel) (hacc : acc.all isDigit = true) :
    (natDigitsAux fuel n acc).all isDigit = true ∧ natDigitsAux fuel n acc ≠ [] ∧
    digitsVal (natDigitsAux fuel n acc) = n * 10 ^ acc.length + digitsVal acc := by
  induction fuel generalizing n acc with
  | zero => omega
  | succ fuel ih =>
    simp only [natDigitsAux]
    have hd : n % 10 < 10 := Nat.mod_lt _ (by omega)
    have hall : (UInt8.ofNat (48 + n % 10) :: acc).all isDigit = true := by
      simp only [List.all_cons, digit_isDigit _ hd, hacc, Bool.and_self]
    split
    · rename_i hz
      refine ⟨hall, by simp, ?_⟩
      rw [digitsVal_cons, digit_val _ hd]
      have : n % 10 = n := by omega
      rw [this]
    · rename_i hz
      have hlt : n / 10 < fuel := by omega
      obtain ⟨h1, h2, h3⟩ := ih (n / 10) (UInt8.ofNat (48 + n % 10) :: acc) hlt hall
      refine ⟨h1, h2, ?_⟩
      rw [h3, digitsVal_cons, digit_val _ hd, List.length_cons, Nat.pow_succ]
      generalize 10 ^ acc.length = X
      generalize digitsVal acc = d
      rw [← Nat.mul_assoc, ← Nat.add_assoc, Nat.mul_right_comm (n / 10) X 10, ← Nat.add_mul,
        Nat.mul_comm (n / 10) 10, Nat.div_add_mod n 10]

theorem natToBytes_spec (n : Nat) :
    (natToBytes n).all isDigit = true ∧ natToBytes n ≠ [] ∧ digitsVal (natToBytes n) = n := by
  obtain ⟨h1, h2, h3⟩ := natDigitsAux_spec (n + 1) n [] (by omega) (by simp)
  refine ⟨h1, h2, ?_⟩
  simpa [natToBytes, digitsVal] using h3

theorem splitSign_digits (ds : Bytes) (h : ds.all isDigit = true) : splitSign ds = (false, ds) := by
  unfold splitSign
  split
  · simp [isDigit] at h
  · simp [isDigit] at h
  · rfl

/-- `strconv.Atoi(strconv.Itoa(n))` is `n` for every n an int64 can hold (non-negative half), an error beyond -/
theorem atoi_natToBytes_eq (n : Nat) :
    atoi (natToBytes n) = if n ≤ 9223372036854775807 then some (Int.ofNat n) else none := by
  obtain ⟨h1, h2, h3⟩ := natToBytes_spec n
  simp [atoi, splitSign_digits _ h1, atoiDigits, h1, h2, h3]

theorem atoi_natToBytes (n : Nat) (h : n ≤ 9223372036854775807) : atoi (natToBytes n) = some (Int.ofNat n) := by
  rw [atoi_natToBytes_eq, if_pos h]

theorem atoi_itoa {p : Int} (hp : 0 ≤ p) (h : p ≤ 9223372036854775807) : atoi (itoa p) = some p := by
  cases p with
  | ofNat n => simpa [itoa] using atoi_natToBytes n (by simp only [Int.ofNat_eq_natCast] at h; omega)
  | negSucc n => omega

theorem natToBytes_digits (n : Nat) : ∀ b ∈ natToBytes n, 48 ≤ b ∧ b ≤ 57 := by
  intro b hb
  have := (natToBytes_spec n).1
  have hb' := List.all_eq_true.mp this b hb
  simpa [isDigit] using hb'

/-! ### `strconv.Itoa` is injective and prints only '-' and digits -/

theorem natToBytes_injective (n m : Nat) (h : natToBytes n = natToBytes m) : n = m := by
  have h1 := (natToBytes_spec n).2.2
  have h2 := (natToBytes_spec m).2.2
  rw [h] at h1
  omega

theorem natToBytes_ne_minus (n : Nat) (x : Bytes) : natToBytes n ≠ 45 :: x := fun h =>
  absurd (natToBytes_digits n 45 (by rw [h]; simp)).1 (by decide)

theorem itoa_injective (i j : Int) (h : itoa i = itoa j) : i = j := by
  cases i <;> cases j <;> simp only [itoa, List.cons.injEq, true_and] at h
  · rw [natToBytes_injective _ _ h]
  · exact absurd h (natToBytes_ne_minus _ _)
  · exact absurd h.symm (natToBytes_ne_minus _ _)
  · have := natToBytes_injective _ _ h
    congr 1; omega

theorem itoa_bytes (i : Int) : ∀ b ∈ itoa i, b = 45 ∨ (48 ≤ b ∧ b ≤ 57) := by
  intro b hb
  cases i with
  | ofNat n => exact Or.inr (natToBytes_digits n b hb)
  | negSucc n =>
    simp only [itoa, List.mem_cons] at hb
    rcases hb with rfl | hb
    · exact Or.inl rfl
    · exact Or.inr (natToBytes_digits _ b hb)

theorem not_mem_itoa (i : Int) (c : UInt8) (hc : c ≠ 45 ∧ (c < 48 ∨ 57 < c) := by decide) : c ∉ itoa i := by
  intro h
  rcases itoa_bytes i c h with h | ⟨h1, h2⟩
  · exact hc.1 h
  · rcases hc.2 with h' | h'
    · exact absurd h1 (UInt8.not_le.mpr h')
    · exact absurd h2 (UInt8.not_le.mpr h')

theorem itoa_no_colon (i : Int) : (58 : UInt8) ∉ itoa i := not_mem_itoa i 58

theorem itoa_ne_nil (i : Int) : itoa i ≠ [] := by
  cases i with
  | ofNat n => exact (natToBytes_spec n).2.1
  | negSucc n => simp [itoa]

end Lemmas
