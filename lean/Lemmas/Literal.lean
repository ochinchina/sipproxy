/-
Lemmas.Literal — From, To and CSeq values are written back literally: the decoded value keeps the text it
was decoded from (`text` in from_spec.go, to.go, cseq.go) and `String()` prints that text.
-/
import Sip.Codec
import Lemmas.Space
open GoStd Sip

namespace Lemmas

/-- the empty text decodes as the empty absolute URI (`ParseAddrSpec("")` succeeds) -/
theorem parseFromToCore_nil :
    parseFromToCore [] = some { nameAddr := none, addrSpec := some (.abs []), params := [] } := by
  have h1 : hasPrefix sipPrefix [] = false := by decide +kernel
  have h2 : hasPrefix sipsPrefix [] = false := by decide +kernel
  simp [parseFromToCore, cut, parseAddrSpec, h1, h2]

theorem parseFromTo_encode {s : Bytes} {f : FromTo} (h : parseFromTo s = some f) : f.encode = s := by
  unfold parseFromTo at h
  cases hc : parseFromToCore s with
  | none => simp [hc] at h
  | some g =>
    simp only [hc, Option.map_some, Option.some.injEq] at h
    subst h
    by_cases hs : s = []
    · subst hs
      rw [parseFromToCore_nil] at hc
      simp only [Option.some.injEq] at hc
      subst hc
      simp [FromTo.encode, FromTo.encodeCore, AddrSpec.encode, encodeSemiParams]
    · simp [FromTo.encode, hs]

theorem parseFromTo_core {s : Bytes} {g : FromTo} (h : parseFromToCore s = some g) :
    parseFromTo s = some { g with text := s } := by
  simp [parseFromTo, h]

/-- what a decoded CSeq was made of: two fields, the first a number; the text is kept -/
theorem parseCSeq_some {s : Bytes} {c : CSeq} (h : parseCSeq s = some c) :
    ∃ n, fields s = [n, c.method] ∧ atoi n = some c.seq ∧ c.text = s := by
  unfold parseCSeq at h
  split at h
  · rename_i n m hf
    cases ha : atoi n with
    | none => simp [ha] at h
    | some i =>
      simp only [ha, Option.map_some, Option.some.injEq] at h
      subst h
      exact ⟨n, hf, ha, rfl⟩
  · cases h

theorem parseCSeq_encode {s : Bytes} {c : CSeq} (h : parseCSeq s = some c) : c.encode = s := by
  obtain ⟨n, hf, -, ht⟩ := parseCSeq_some h
  -- the empty text has no fields
  have hs : s ≠ [] := by rintro rfl; cases hf
  simp [CSeq.encode, ht, hs]

theorem parseCSeq_method_no_blank {s : Bytes} {c : CSeq} (h : parseCSeq s = some c) : (32 : UInt8) ∉ c.method := by
  obtain ⟨n, hf, -, -⟩ := parseCSeq_some h
  exact fields_no_blank s _ (by rw [hf]; simp)

end Lemmas

