/-
Lemmas.AbsExamples — non-vacuity of the hypotheses of `Lemmas.Abs` on its example message `exMsg`
(generated table `realCm`).
-/
import Lemmas.Abs
open GoStd Sip

namespace Lemmas

theorem exMsg_find_via :
    findHeader realCm exMsg.headers viaName = some { name := str "v", value := .raw exTopVia } := by
  simp only [fixture]; decide +kernel

theorem exMsg_find_route : findHeader realCm exMsg.headers routeName =
    some { name := str "Route", value := .raw (str "<sip:p1;lr>, <sip:p2:5080;transport=tcp>") } := by
  -- the class test by its characterisation for the generated table: no walk through the table per header
  simp only [findHeader, isSameHeader_eq_lowerClass, real_route]; simp only [fixture]; decide +kernel

example : (viaStack realCm exMsg.headers).map (·.host) = [str "a", str "b", str "c"] := by simp only [fixture]; decide +kernel
example : (routeStack realCm exMsg.headers).length = 2 := by
  simp only [routeStack_eq, isSameHeader_eq_lowerClass, real_route]; simp only [fixture]; decide +kernel
example : (rrStack realCm exMsg.headers).length = 1 := by
  simp only [rrStack_eq, isSameHeader_eq_lowerClass, real_recordRoute]; simp only [fixture]; decide +kernel

/-- `stackOf_of_find` applies -/
example : viaStack realCm exMsg.headers =
    viaVals (.raw exTopVia) ++ viaStack realCm (removeHeader realCm exMsg.headers viaName) :=
  stackOf_of_find realCm viaName viaVals _ _ exMsg_find_via

/-- the hypothesis of `getVia_some`, `viaStack_getVia`, `setReceived_of_cons`, `viaStack_head_of_getVia`:
the getter succeeds with a two-entry list -/
example : ∃ vp rest m', getVia realCm exMsg = some (vp :: rest, m') ∧ rest.length = 1 := by
  have h : (getVia realCm exMsg).map (fun p => p.1.length) = some 2 := by
    simp only [fixture]; decide +kernel
  cases hg : getVia realCm exMsg with
  | none => rw [hg] at h; cases h
  | some p =>
    obtain ⟨v, m'⟩ := p
    rw [hg] at h
    cases v with
    | nil => simp at h
    | cons vp rest => exact ⟨vp, rest, m', rfl, by simpa using h⟩

/-- `viaStack_popVia` applies -/
example : ∃ m', popVia realCm exMsg = some m' ∧
    viaStack realCm m'.headers = (viaStack realCm exMsg.headers).tail := by
  obtain ⟨m', h⟩ := Option.isSome_iff_exists.mp (show (popVia realCm exMsg).isSome = true by
    simp only [fixture]; decide +kernel)
  refine ⟨m', h, viaStack_popVia realCm h ?_⟩
  intro hd hf
  rw [exMsg_find_via] at hf
  cases hf
  simp

/-- `routeStack_popRoute`, `viaStack_popRoute` apply -/
example : ∃ m', popRoute realCm exMsg = some m' ∧
    routeStack realCm m'.headers = (routeStack realCm exMsg.headers).tail ∧
    viaStack realCm m'.headers = viaStack realCm exMsg.headers := by
  obtain ⟨m', h⟩ := Option.isSome_iff_exists.mp (show (popRoute realCm exMsg).isSome = true by
    simp only [fixture]; decide +kernel)
  refine ⟨m', h, routeStack_popRoute realCm h ?_, viaStack_popRoute realCm real_via_route h⟩
  intro hd hf
  rw [exMsg_find_route] at hf
  cases hf
  simp

/-- where `addVia` and `addRecordRoute` insert: the first Via-class header is at position 1, the
Record-Route at 3 -/
example : findHeaderPos realCm exMsg.headers viaName = some 1 ∧ findRecordRoutePos realCm exMsg.headers = 3 := by
  simp only [fixture]; decide +kernel

/-- the hypothesis of `stackOf_of_find_none`, `getVia_none_of_find_none` on a message without Via -/
example : findHeader realCm [({ name := str "To", value := .raw [] } : Header)] viaName = none := by simp only [fixture]; decide +kernel

/-- `setReceived_of_nil`: only an already-decoded empty list gives `some ([], _)` -/
example : getVia realCm { exMsg with headers := [{ name := viaName, value := .via [] }] } =
    some ([], { exMsg with headers := [{ name := viaName, value := .via [] }] }) := by simp only [fixture]; decide +kernel

/-- `NoEmpty` holds for the example (all values raw), so `viaStack_popVia_noEmpty` applies -/
example : NoEmpty exMsg.headers := by
  apply noEmpty_of_raw
  intro x hx
  simp only [exMsg, List.mem_cons, List.not_mem_nil, or_false] at hx
  rcases hx with rfl | rfl | rfl | rfl | rfl | rfl | rfl | rfl <;> exact ⟨_, rfl⟩

end Lemmas
