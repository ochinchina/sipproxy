import Lemmas.NameFixture
import Lemmas.RelaySample

/-! The sample configuration of `Lemmas.RelaySample` as fixtures. -/

attribute [fixture]
  Lemmas.Sample.cfg Lemmas.Sample.lsn Lemmas.Sample.b1 Lemmas.Sample.b2 Lemmas.Sample.raw Lemmas.Sample.invite
  Lemmas.Sample.bye Lemmas.Sample.dlg Lemmas.Sample.bye2 Lemmas.Sample.routed Lemmas.Sample.static
  Lemmas.Sample.stray Lemmas.Sample.resp Lemmas.Sample.st Lemmas.Sample.ev
