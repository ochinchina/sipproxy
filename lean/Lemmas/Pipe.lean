/-
Lemmas.Pipe — how the steps of the per-message pipeline (`Proxy.Model`) act on the routing stacks.

Tool: the frame of one name class (`ClassFrame`: its headers, seen as they are, i.e. the *class view*
of the header list; `ViaFrame`: the Via headers, each seen as the list a getter would read from it).
Every stack, and everything a typed getter reads, is a function of the frame of its class; every
operation of the pipeline respects the frames of all classes disjoint from the ones it works on
(`Lemmas.Hdr`), so every function of the pipeline does (`Lemmas.Keeps`). What is left to this file
are the few steps that do change a stack. `Disj cm a b` (no name is in both classes) is always an
explicit hypothesis; section `RealMap` discharges all instances needed for the generated table.
-/
import Proxy.Model
import Lemmas.Abs
import Lemmas.Keeps
open GoStd Sip Proxy

namespace Lemmas

/-- the Via class with every header seen as the list `getVia` would read from it; unlike
`ClassFrame cm viaName` it survives the decoding of a Via header in place -/
abbrev ViaFrame (cm : List (Bytes × Bytes)) :=
  Frame (fun x => isSameHeader cm x viaName) (fun h : Header => viaSlot.read h.value)

section Frames
variable {cm : List (Bytes × Bytes)} {n : Bytes} {m m' : Message}

theorem Frame.routeStack (h : ClassFrame cm routeName m m') : routeStack cm m'.headers = routeStack cm m.headers :=
  stackOf_of_view cm _ _ h.view

theorem Frame.rrStack (h : ClassFrame cm recordRouteName m m') : rrStack cm m'.headers = rrStack cm m.headers :=
  stackOf_of_view cm _ _ h.view

theorem Frame.getRoute_fst (h : ClassFrame cm routeName m m') :
    (getRoute cm m').map Prod.fst = (getRoute cm m).map Prod.fst := by
  rw [getRoute_eq, getRoute_eq]
  exact Frame.getLazy_fst cm routeSlot (h.mono fun x : Header => routeSlot.read x.value)

theorem Frame.toVia (h : ClassFrame cm viaName m m') : ViaFrame cm m m' :=
  h.mono fun x : Header => viaSlot.read x.value

theorem Frame.getVia_fst (h : ViaFrame cm m m') : (getVia cm m').map Prod.fst = (getVia cm m).map Prod.fst := by
  rw [getVia_eq, getVia_eq]
  exact Frame.getLazy_fst cm viaSlot h

theorem Frame.viaStack (h : ViaFrame cm m m') : viaStack cm m'.headers = viaStack cm m.headers := by
  have key : ∀ hs, Lemmas.viaStack cm hs =
      ((hs.filter (fun h => isSameHeader cm h.name viaName)).map (fun h => viaSlot.read h.value)).flatMap
        (fun o => o.getD []) := by
    intro hs
    simp [viaStack_eq, List.flatMap_map, viaVals_eq, Slot.vals]
  rw [key, key, h.headers]

/-- reading a Via header, decoded or not, gives the same list -/
theorem blind_via_self (cm : List (Bytes × Bytes)) :
    Blind (fun x => isSameHeader cm x viaName) (fun h : Header => viaSlot.read h.value) cm viaSlot :=
  fun _ s a _ hp => Or.inr (by simp only [viaSlot.read_inj, viaSlot.read_raw, hp])

end Frames

/-- the name classes the pipeline writes into do not overlap with the three routing classes -/
structure ClassesOK (cm : List (Bytes × Bytes)) : Prop where
  via_route : Disj cm viaName routeName
  via_rr : Disj cm viaName recordRouteName
  route_rr : Disj cm routeName recordRouteName
  cseq_via : Disj cm cseqName viaName
  cseq_route : Disj cm cseqName routeName
  cseq_rr : Disj cm cseqName recordRouteName
  from_via : Disj cm fromName viaName
  from_route : Disj cm fromName routeName
  from_rr : Disj cm fromName recordRouteName
  to_via : Disj cm toName viaName
  to_route : Disj cm toName routeName
  to_rr : Disj cm toName recordRouteName

section Decodes
variable {cm : List (Bytes × Bytes)}

/-- the four decode-only getters respect the frame of a class disjoint from theirs -/
theorem class_decodes {n : Bytes} (hC : Disj cm cseqName n) (hV : Disj cm viaName n) (hF : Disj cm fromName n)
    (hT : Disj cm toName n) : Decodes cm (ClassFrame cm n) :=
  frame_decodes _ _ cm (hC.hidden.blind _) (hV.hidden.blind _) (hF.hidden.blind _) (hT.hidden.blind _)

/-- ... and the Via frame -/
theorem via_decodes (hc : ClassesOK cm) : Decodes cm (ViaFrame cm) :=
  frame_decodes _ _ cm (hc.cseq_via.hidden.blind _) (blind_via_self cm) (hc.from_via.hidden.blind _)
    (hc.to_via.hidden.blind _)

end Decodes

section Steps
variable (cm : List (Bytes × Bytes)) {n : Bytes}

/-! `sv_`: a step keeps the same view (`classView`) of a class it does not work on -/

theorem sv_popVia_getD (hd : Disj cm viaName n) (m : Message) :
    classView cm n ((popVia cm m).getD m).headers = classView cm n m.headers :=
  ((frame_pre _ id).getD (frame_popVia _ id cm hd.hidden) m).view

theorem sv_getMethod (hd : Disj cm cseqName n) {m m' : Message} {x : Bytes}
    (h : getMethod cm m = some (x, m')) : classView cm n m'.headers = classView cm n m.headers :=
  (keeps_getMethod (frame_pre _ id) cm (frame_getCSeq _ id cm (hd.hidden.blind _)) h).view

end Steps

section ProxySteps
variable (cfg : Cfg) {n : Bytes}

theorem sv_insertSelf (hV : Disj cfg.cm viaName n) (hRR : Disj cfg.cm recordRouteName n)
    (m : Message) (t : Listener) (br : Bytes) :
    classView cfg.cm n (insertSelf cfg m t br).headers = classView cfg.cm n m.headers :=
  (keeps_insertSelf (frame_pre _ id) cfg (frame_addVia _ id cfg.cm hV.hidden)
    (frame_addRecordRoute _ id cfg.cm hRR.hidden) m t br).view

theorem classFrame_getNextRequestHop (hR : Disj cfg.cm routeName n) (hT : Disj cfg.cm toName n) (m : Message) :
    ClassFrame cfg.cm n m (getNextRequestHop cfg m).2 :=
  keeps_getNextRequestHop (frame_pre _ _) cfg (frame_getRoute _ _ _ (hR.hidden.blind _))
    (frame_popRoute _ _ _ hR.hidden) (frame_getTo _ _ _ (hT.hidden.blind _)) m

theorem classFrame_handleRawMessage (hV : Disj cfg.cm viaName n) (hC : Disj cfg.cm cseqName n)
    (hR : Disj cfg.cm routeName n) (st : St) (ev : RawEv) :
    ClassFrame cfg.cm n ev.msg (handleRawMessage cfg st ev).2 :=
  keeps_handleRawMessage' (frame_pre _ _) cfg (frame_forEachVia _ _ _ (hV.hidden.blind _))
    (frame_setReceived _ _ _ hV.hidden) (frame_getVia _ _ _ (hV.hidden.blind _))
    (frame_getCSeq _ _ _ (hC.hidden.blind _)) (frame_getRoute _ _ _ (hR.hidden.blind _))
    (frame_popRoute _ _ _ hR.hidden) st ev

end ProxySteps

/-! ### the two stages of `handleRawMessage` that do change a stack -/

section RawMain
variable (cfg : Cfg)

/-- `viaStack_setReceived` with the scrutinee reduced to what `getVia` reads -/
theorem viaStack_setReceived_fst (cm : List (Bytes × Bytes)) (m : Message) (ip : Bytes) (port : Int) :
    viaStack cm (setReceived cm m ip port).headers =
      match (getVia cm m).map Prod.fst with
      | some (vp :: _) => stampReceived vp ip port :: (viaStack cm m.headers).tail
      | _ => viaStack cm m.headers := by
  rw [viaStack_setReceived]
  cases getVia cm m with
  | none => rfl
  | some p =>
    obtain ⟨v, m1⟩ := p
    cases v <;> rfl

/-- the Via stack after `handleRawMessage`, as a function of the received message: stages 1, 3
and 4 keep the Via frame, stage 2 stamps -/
theorem viaStack_handleRawMessage (hVR : Disj cfg.cm viaName routeName) (hCV : Disj cfg.cm cseqName viaName)
    (st : St) (ev : RawEv) :
    viaStack cfg.cm (handleRawMessage cfg st ev).2.headers =
      if isRequest ev.msg && ev.receivedSupport then
        match (getVia cfg.cm ev.msg).map Prod.fst with
        | some (vp :: _) => stampReceived vp ev.peerAddr ev.peerPort :: (viaStack cfg.cm ev.msg.headers).tail
        | _ => viaStack cfg.cm ev.msg.headers
      else viaStack cfg.cm ev.msg.headers := by
  have f1 : ViaFrame cfg.cm ev.msg (rawLearn cfg st ev).2 :=
    keeps_rawLearn (frame_pre _ _) cfg (frame_forEachVia _ _ _ (blind_via_self _)) st ev
  have f3 : ∀ m, ViaFrame cfg.cm m (rawConn cfg st ev m).2 :=
    keeps_rawConn (frame_pre _ _) cfg (frame_getVia _ _ _ (blind_via_self _))
      (frame_getCSeq _ _ _ (hCV.hidden.blind _)) st ev
  have f4 : ∀ m, ViaFrame cfg.cm m (rawOwnRoute cfg ev m) :=
    keeps_rawOwnRoute (frame_pre _ _) cfg (frame_getRoute _ _ _ (hVR.symm.hidden.blind _))
      (frame_popRoute _ _ _ hVR.symm.hidden) ev
  rw [handleRawMessage_msg, (f4 _).viaStack, (f3 _).viaStack]
  unfold rawStamp
  split
  · rw [viaStack_setReceived_fst, f1.getVia_fst, f1.viaStack]
  · exact f1.viaStack

/-- stage 4 on the Route stack: exactly the head entry goes iff it designates the listener -/
theorem routeStack_rawOwnRoute (ev : RawEv) (m : Message) :
    routeStack cfg.cm (rawOwnRoute cfg ev m).headers =
      match (getRoute cfg.cm m).map Prod.fst with
      | some (rp :: _) =>
        match rp.nameAddr.addr with
        | .sip u => if designatesListener cfg ev.frm u then (routeStack cfg.cm m.headers).tail
                    else routeStack cfg.cm m.headers
        | .abs _ => routeStack cfg.cm m.headers
      | _ => routeStack cfg.cm m.headers := by
  unfold rawOwnRoute
  cases hg : getRoute cfg.cm m with
  | none => rfl
  | some p =>
    obtain ⟨r, m1⟩ := p
    have h1 := (routeStack_getRoute cfg.cm hg).1
    cases r with
    | nil => exact h1
    | cons rp rest =>
      simp only [Option.map_some]
      cases hu : rp.nameAddr.addr with
      | abs s => exact h1
      | sip u =>
        simp only []
        split
        · obtain ⟨m2, hp, hs⟩ := routeStack_popRoute_after_get cfg.cm hg
          rw [hp]; exact hs
        · exact h1

/-- the Route stack after `handleRawMessage`, as a function of the received message: stages 1 to 3
keep the Route class -/
theorem routeStack_handleRawMessage (hVR : Disj cfg.cm viaName routeName) (hCR : Disj cfg.cm cseqName routeName)
    (st : St) (ev : RawEv) :
    routeStack cfg.cm (handleRawMessage cfg st ev).2.headers =
      match (getRoute cfg.cm ev.msg).map Prod.fst with
      | some (rp :: _) =>
        match rp.nameAddr.addr with
        | .sip u => if designatesListener cfg ev.frm u then (routeStack cfg.cm ev.msg.headers).tail
                    else routeStack cfg.cm ev.msg.headers
        | .abs _ => routeStack cfg.cm ev.msg.headers
      | _ => routeStack cfg.cm ev.msg.headers := by
  have f : ClassFrame cfg.cm routeName ev.msg (rawConn cfg st ev (rawStamp cfg ev (rawLearn cfg st ev).2)).2 :=
    (frame_pre _ _).trans
      ((frame_pre _ _).trans (keeps_rawLearn (frame_pre _ _) cfg (frame_forEachVia _ _ _ (hVR.hidden.blind _)) st ev)
        (keeps_rawStamp (frame_pre _ _) cfg (frame_setReceived _ _ _ hVR.hidden) ev _))
      (keeps_rawConn (frame_pre _ _) cfg (frame_getVia _ _ _ (hVR.hidden.blind _))
        (frame_getCSeq _ _ _ (hCR.hidden.blind _)) st ev _)
  rw [handleRawMessage_msg, routeStack_rawOwnRoute, f.getRoute_fst, f.routeStack]

end RawMain

section Start
variable (cfg : Cfg)

theorem isRequest_handleRawMessage (st : St) (ev : RawEv) :
    isRequest (handleRawMessage cfg st ev).2 = isRequest ev.msg := by
  unfold isRequest
  rw [(keeps_handleRawMessage cfg (bare_steps cfg.cm) st ev).start]

theorem handleDialog_request (st : St) (a : Bytes) (p : Int) (m : Message) (h : isRequest m = true) :
    handleDialog cfg st a p m = (st, m) := by
  simp [handleDialog, isResponse, h]

theorem step_request (st : St) (ev : RawEv) (h : isRequest ev.msg = true) :
    step cfg st ev = handleMessage cfg (handleRawMessage cfg st ev).1 ev (handleRawMessage cfg st ev).2 := by
  rw [step_eq, handleDialog_request cfg _ _ _ _ (by rw [isRequest_handleRawMessage]; exact h)]

/-- a response goes through `handleRawMessage` untouched except for the Route check -/
theorem handleRawMessage_response (st : St) (ev : RawEv) (h : isRequest ev.msg = false) :
    (handleRawMessage cfg st ev).2 = rawOwnRoute cfg ev ev.msg := by
  rw [handleRawMessage_msg]
  simp [rawLearn, rawStamp, rawConn, h]

/-- the message that reaches `handleMessage` when a response is received has the Via readings and
the start line of that response -/
theorem viaFrame_step_response (hc : ClassesOK cfg.cm) (st : St) (ev : RawEv) (h : isRequest ev.msg = false) :
    ViaFrame cfg.cm ev.msg
      (handleDialog cfg (handleRawMessage cfg st ev).1 ev.peerAddr ev.peerPort (handleRawMessage cfg st ev).2).2 := by
  refine (frame_pre _ _).trans ?_ (keeps_handleDialog cfg (via_decodes hc) _ _ _ _)
  rw [handleRawMessage_response cfg st ev h]
  exact keeps_rawOwnRoute (frame_pre _ _) cfg (frame_getRoute _ _ _ (hc.via_route.symm.hidden.blind _))
    (frame_popRoute _ _ _ hc.via_route.symm.hidden) ev _

end Start

section InsertSelf
variable (cfg : Cfg)

theorem viaStack_insertSelf (m : Message) (t : Listener) (br : Bytes) :
    viaStack cfg.cm (insertSelf cfg m t br).headers = ownVia t br :: viaStack cfg.cm m.headers := by
  unfold insertSelf
  simp only []
  split
  · exact viaStack_addVia cfg.cm m _
  · rw [viaStack_addRecordRoute, viaStack_addVia]

/-- only needs: the name "Via" is not itself a Record-Route name -/
theorem rrStack_insertSelf (hV : isSameHeader cfg.cm viaName recordRouteName = false)
    (m : Message) (t : Listener) (br : Bytes) :
    rrStack cfg.cm (insertSelf cfg m t br).headers =
      (if (findHeader cfg.cm m.headers recordRouteName).isSome ∨ cfg.mustRecordRoute = true
       then [ownRecordRoute t] else []) ++ rrStack cfg.cm m.headers := by
  have hfind : findHeader cfg.cm (addVia cfg.cm m (ownVia t br)).headers recordRouteName =
      findHeader cfg.cm m.headers recordRouteName :=
    findHeader_insertAt_other cfg.cm _ _ _ _ hV
  unfold insertSelf
  simp only [hfind]
  cases hf : (findHeader cfg.cm m.headers recordRouteName) with
  | none =>
    cases hm : cfg.mustRecordRoute with
    | false => simp [rrStack_addVia]
    | true => simp [rrStack_addRecordRoute, rrStack_addVia]
  | some h => simp [rrStack_addRecordRoute, rrStack_addVia]

theorem routeStack_insertSelf (m : Message) (t : Listener) (br : Bytes) :
    routeStack cfg.cm (insertSelf cfg m t br).headers = routeStack cfg.cm m.headers := by
  unfold insertSelf
  simp only []
  split
  · exact routeStack_addVia cfg.cm m _
  · rw [routeStack_addRecordRoute, routeStack_addVia]

end InsertSelf

section StepRequest
variable (cfg : Cfg)

theorem routeStack_getNextRequestHop (hTR : Disj cfg.cm toName routeName) (m : Message) :
    routeStack cfg.cm (getNextRequestHop cfg m).2.headers =
      routeStack cfg.cm (getNextRequestHopByRoute cfg m).2.headers :=
  (keeps_getNextRequestHop_config (frame_pre _ _) cfg (frame_getTo _ id _ (hTR.hidden.blind _)) m).routeStack

/-- Every packet a request event produces is the serialisation of a message `m'` whose stacks are:
Via = (own Via for listener `self`, if any) on top of the Via stack after `handleRawMessage`;
Record-Route = (own entry, if `self` and the request carried a Record-Route or always-record) ahead
of the received ones; Route = what `getNextRequestHopByRoute` left. `self` is the backend item's
first listener for packets to a backend, and the listener learned for the hop's host (if any)
for relayed packets. -/
theorem step_request_out (hc : ClassesOK cfg.cm) (st : St) (ev : RawEv) (hreq : isRequest ev.msg = true)
    (o : Out) (ho : o ∈ (step cfg st ev).2) :
    ∃ (m' : Message) (self : Option Listener), o.data = m'.bytes cfg.cm ∧
      viaStack cfg.cm m'.headers =
        (match self with | some t => [ownVia t ev.branch] | none => []) ++
          viaStack cfg.cm (handleRawMessage cfg st ev).2.headers ∧
      rrStack cfg.cm m'.headers =
        (match self with
         | some t => if (findHeader cfg.cm ev.msg.headers recordRouteName).isSome ∨ cfg.mustRecordRoute = true
                     then [ownRecordRoute t] else []
         | none => []) ++ rrStack cfg.cm ev.msg.headers ∧
      routeStack cfg.cm m'.headers =
        routeStack cfg.cm (getNextRequestHopByRoute cfg (handleRawMessage cfg st ev).2).2.headers ∧
      (if o.isBackend then
         (getNextRequestHop cfg (handleRawMessage cfg st ev).2).1 = none ∧ self = cfg.transports0 ∧ self.isSome = true
       else ∃ hop, (getNextRequestHop cfg (handleRawMessage cfg st ev).2).1 = some hop ∧
         self = assocGet (handleRawMessage cfg st ev).1.learned hop.host) := by
  rw [step_request cfg st ev hreq] at ho
  have hreqR : isRequest (handleRawMessage cfg st ev).2 = true := by rw [isRequest_handleRawMessage]; exact hreq
  -- what is printed is the routed request, own entries inserted, decoded in place here and there
  obtain ⟨self, m1, m', hd, q1, q2, hs⟩ := handleMessage_request_shape cfg _ ev _ hreqR o ho
  have dV := via_decodes hc
  have dR := class_decodes hc.cseq_route hc.via_route hc.from_route hc.to_route
  have dRR := class_decodes hc.cseq_rr hc.via_rr hc.from_rr hc.to_rr
  have gV := (classFrame_getNextRequestHop cfg hc.via_route.symm hc.to_via (handleRawMessage cfg st ev).2).toVia
  have hrr : ClassFrame cfg.cm recordRouteName ev.msg m1 :=
    (frame_pre _ _).trans ((frame_pre _ _).trans
      (classFrame_handleRawMessage cfg hc.via_rr hc.cseq_rr hc.route_rr st ev)
      (classFrame_getNextRequestHop cfg hc.route_rr hc.to_rr _)) (q1 dRR)
  have hroute := (q1 dR).routeStack.trans (routeStack_getNextRequestHop cfg hc.to_route _)
  refine ⟨m', self, hd, ?_, ?_, ?_, hs⟩
  · rw [(q2 dV).viaStack]
    cases self with
    | none => exact (q1 dV).viaStack.trans gV.viaStack
    | some t => rw [viaStack_insertSelf, (q1 dV).viaStack, gV.viaStack]; rfl
  · rw [(q2 dRR).rrStack]
    cases self with
    | none => exact hrr.rrStack
    | some t =>
      rw [rrStack_insertSelf cfg (hc.via_rr _ (isSameHeader_refl _ _)), hrr.rrStack,
        findHeader_of_view cfg.cm _ hrr.view]
  · rw [(q2 dR).routeStack]
    cases self with
    | none => exact hroute
    | some t => rw [routeStack_insertSelf]; exact hroute

end StepRequest

/-! ### `ClassesOK` for the generated table -/

section RealMap

/-- `Disj realCm a b` from two class characterisations written with `||` (for the `contains` form
there is `disj_of_spellings`) -/
macro "real_disj " a:ident b:ident : tactic =>
  `(tactic| (intro x h; rw [$a:ident] at h; rw [$b:ident];
             simp only [Bool.or_eq_true, beq_iff_eq] at h;
             first
               | (rcases h with h | h <;> rw [h] <;> decide)
               | (rw [h]; decide)))

theorem real_classesOK : ClassesOK realCm where
  via_route := real_via_route
  via_rr := real_via_rr
  route_rr := real_route_rr
  cseq_via := disj_of_spellings real_cseq real_via (by decide)
  cseq_route := disj_of_spellings real_cseq real_route (by decide)
  cseq_rr := disj_of_spellings real_cseq real_recordRoute (by decide)
  from_via := disj_of_spellings real_from real_via (by decide)
  from_route := disj_of_spellings real_from real_route (by decide)
  from_rr := disj_of_spellings real_from real_recordRoute (by decide)
  to_via := disj_of_spellings real_to real_via (by decide)
  to_route := disj_of_spellings real_to real_route (by decide)
  to_rr := disj_of_spellings real_to real_recordRoute (by decide)

end RealMap

/-! ### fixtures for the non-vacuity examples (`Lemmas/PipeExamples.lean`, the property files) -/

section Fixtures

def exListener : Listener := { proto := str "UDP", addr := str "10.0.0.1", port := 5060 }

def exCfg : Cfg :=
  { cm := realCm, finalClasses := Generated.finalClasses, supported := Generated.supportedProtocols,
    names := [str "x"], keepNextHopRoute := false, mustRecordRoute := false,
    hosts := [(str "p1", str "10.0.0.9")], routes := [], transports0 := some exListener }

def exSt : St :=
  { learned := [(str "p1", exListener)], backends := [str "10.0.0.5:5060"],
    rr := { index := 0, backends := [str "10.0.0.5:5060"], keys := [str "10.0.0.5:5060"] } }

def exEv (m : Message) : RawEv :=
  { peerAddr := str "10.0.0.7", peerPort := 4444, frm := exListener, receivedSupport := true,
    tcpConn := none, msg := m, rxMatch := false, branch := str "z9hG4bKabc" }

def exMsgNoRoute : Message :=
  { exMsg with headers := exMsg.headers.filter (fun h => !isSameHeader realCm h.name routeName) }

/-- a response travelling back: two Via headers, three entries (the proxy's own on top; `a, b` in one `v:` line), received/rport on the second -/
def exResp : Message :=
  { start := .status (str "SIP/2.0") 200 (str "OK"),
    headers := [ { name := str "Via", value := .raw (str "SIP/2.0/UDP 10.0.0.1:5060;branch=z9hG4bKabc") },
                 { name := str "v", value := .raw (str "SIP/2.0/UDP a:5070;received=10.0.0.7;rport=4444;branch=z1, SIP/2.0/TCP b") },
                 { name := str "CSeq", value := .raw (str "1 INVITE") } ],
    body := [] }

attribute [fixture] exListener exCfg exSt exEv exMsgNoRoute exResp

end Fixtures

end Lemmas
