/-
Lemmas.Hdr — the header list of `Sip.Message` seen through name predicates, and the one shape the
five typed getters (and the two pops) share.

Two ideas carry everything above this file.
* Surgery on the first header of a class (`setFirst`, `removeHeader`), `insertAt` and
  `forEachViaHeaders` leave alone what ANY predicate on header names selects, as soon as that
  predicate rejects the class worked on, or the observation made of a header does not see the change.
* `getVia`, `getRoute`, `getFrom`, `getTo`, `getCSeq` are `getLazy` at five `Slot`s; `popVia`,
  `popRoute` are `popLazy` at two.
Together: the relation `Frame p obs` between a message and what an operation made of it (same start
line, same body, `obs` sees the same on the headers `p` selects), respected by every primitive
operation whose class is `Hidden` from `p` or whose decoding `obs` is `Blind` to. `Pre`, `Keeps`, `KeepsO`
(a preorder on messages; a getter / an operation moves a message along it) are the vocabulary in which
`Lemmas/Keeps.lean` lifts such a relation through the pipeline.
-/
import Sip.Message
open GoStd Sip

namespace Lemmas

def Disj (cm : List (Bytes × Bytes)) (a b : Bytes) : Prop :=
  ∀ x, isSameHeader cm x a = true → isSameHeader cm x b = false

theorem Disj.symm {cm : List (Bytes × Bytes)} {a b : Bytes} (h : Disj cm a b) : Disj cm b a := by
  intro x hb
  cases ha : isSameHeader cm x a with
  | false => rfl
  | true => rw [h x ha] at hb; cases hb

section Surgery
variable (cm : List (Bytes × Bytes))

theorem isSameHeader_refl (n : Bytes) : isSameHeader cm n n = true := by
  simp [isSameHeader, equalFold]

def lowerClass (key : Bytes) : List Bytes :=
  toLower key :: (match getCompact cm key with | some c => [toLower c] | none => [])

theorem isSameHeader_eq_lowerClass (n key : Bytes) :
    isSameHeader cm n key = (lowerClass cm key).contains (toLower n) := by
  unfold isSameHeader lowerClass equalFold
  cases getCompact cm key <;> rw [Bool.eq_iff_iff] <;> simp

/-- `encodeHeaders` prints, in order, exactly the headers outside the Content-Length class -/
theorem encodeHeaders_eq_flatMap (hs : List Header) :
    encodeHeaders cm hs = (hs.filter (fun h => !isSameHeader cm h.name contentLengthName)).flatMap
      (fun h => h.name ++ [58, 32] ++ h.value.encode ++ crlf) := by
  induction hs with
  | nil => rfl
  | cons h hs ih =>
    simp only [encodeHeaders, List.filter_cons, ih]
    cases isSameHeader cm h.name contentLengthName <;> simp

/-! #### the list as the search for the first header of a class sees it

No header of the class (`Free`), or a class-free prefix, the header found, and the rest; `setFirst`,
`removeHeader` and `findHeaderPos` are read off these two forms (`surgery_free`, `surgery_split`). -/

def Free (n : Bytes) (hs : List Header) : Prop := ∀ x ∈ hs, isSameHeader cm x.name n = false

theorem findHeader_eq_none {hs : List Header} {n : Bytes} : findHeader cm hs n = none ↔ Free cm n hs := by
  simp [findHeader, Free]

theorem findHeader_eq_some {hs : List Header} {n : Bytes} {h : Header} (hf : findHeader cm hs n = some h) :
    ∃ pre post, hs = pre ++ h :: post ∧ Free cm n pre ∧ isSameHeader cm h.name n = true := by
  obtain ⟨hc, pre, post, e, hpre⟩ := List.find?_eq_some_iff_append.1 hf
  exact ⟨pre, post, e, fun x hx => by simpa using hpre x hx, hc⟩

theorem findHeader_split {n : Bytes} {pre : List Header} (hpre : Free cm n pre) {h : Header}
    (hc : isSameHeader cm h.name n = true) (post : List Header) : findHeader cm (pre ++ h :: post) n = some h := by
  have : findHeader cm pre n = none := (findHeader_eq_none cm).2 hpre
  simp only [findHeader] at this ⊢
  simp [List.find?_append, this, hc]

theorem findHeader_cases (hs : List Header) (n : Bytes) :
    (findHeader cm hs n = none ∧ Free cm n hs) ∨
    ∃ pre h post, findHeader cm hs n = some h ∧ hs = pre ++ h :: post ∧ Free cm n pre ∧
      isSameHeader cm h.name n = true := by
  cases hf : findHeader cm hs n with
  | none => exact Or.inl ⟨rfl, (findHeader_eq_none cm).1 hf⟩
  | some h =>
    obtain ⟨pre, post, e, hpre, hc⟩ := findHeader_eq_some cm hf
    exact Or.inr ⟨pre, h, post, rfl, e, hpre, hc⟩

theorem surgery_free {n : Bytes} {hs : List Header} (h : Free cm n hs) (v : HVal) :
    setFirst cm hs n v = hs ∧ removeHeader cm hs n = hs ∧ findHeaderPos cm hs n = none := by
  induction hs with
  | nil => exact ⟨rfl, rfl, rfl⟩
  | cons x xs ih =>
    obtain ⟨a, b, c⟩ := ih fun y hy => h y (List.mem_cons_of_mem _ hy)
    simp [setFirst, removeHeader, findHeaderPos, h x List.mem_cons_self, a, b, c]

theorem surgery_split {n : Bytes} {pre : List Header} (hpre : Free cm n pre) {h : Header}
    (hc : isSameHeader cm h.name n = true) (post : List Header) (v : HVal) :
    setFirst cm (pre ++ h :: post) n v = pre ++ { name := h.name, value := v } :: post ∧
    removeHeader cm (pre ++ h :: post) n = pre ++ post ∧
    findHeaderPos cm (pre ++ h :: post) n = some pre.length := by
  induction pre with
  | nil => simp [setFirst, removeHeader, findHeaderPos, hc]
  | cons x xs ih =>
    obtain ⟨a, b, c⟩ := ih fun y hy => hpre y (List.mem_cons_of_mem _ hy)
    simp [setFirst, removeHeader, findHeaderPos, hpre x List.mem_cons_self, a, b, c]

/-- no header of the class stands before the position the search returns (any position, when it
returns none: then there is no header of the class at all) -/
theorem free_take {n : Bytes} {hs : List Header} {p : Nat} (h : ∀ q, findHeaderPos cm hs n = some q → q = p) :
    Free cm n (hs.take p) := by
  rcases findHeader_cases cm hs n with ⟨_, hfree⟩ | ⟨pre, x, post, _, rfl, hpre, hc⟩
  · exact fun y hy => hfree y (List.mem_of_mem_take hy)
  · rw [← h _ (surgery_split cm hpre hc post (.raw [])).2.2, List.take_left' rfl]
    exact hpre

theorem mem_setFirst (hs : List Header) (n : Bytes) (v : HVal) (x : Header)
    (hx : x ∈ setFirst cm hs n v) : x ∈ hs ∨ x.value = v := by
  rcases findHeader_cases cm hs n with ⟨_, hfree⟩ | ⟨pre, h, post, _, rfl, hpre, hc⟩
  · rw [(surgery_free cm hfree v).1] at hx; exact Or.inl hx
  · rw [(surgery_split cm hpre hc post v).1] at hx
    simp only [List.mem_append, List.mem_cons] at hx ⊢
    rcases hx with hx | rfl | hx
    · exact Or.inl (Or.inl hx)
    · exact Or.inr rfl
    · exact Or.inl (Or.inr (Or.inr hx))

theorem mem_removeHeader (hs : List Header) (n : Bytes) (x : Header)
    (hx : x ∈ removeHeader cm hs n) : x ∈ hs := by
  rcases findHeader_cases cm hs n with ⟨_, hfree⟩ | ⟨pre, h, post, _, rfl, hpre, hc⟩
  · rwa [(surgery_free cm hfree (.raw [])).2.1] at hx
  · rw [(surgery_split cm hpre hc post (.raw [])).2.1] at hx
    simp only [List.mem_append, List.mem_cons] at hx ⊢
    exact hx.imp id Or.inr

theorem removeHeader_setFirst (n : Bytes) (hs : List Header) (v : HVal) :
    removeHeader cm (setFirst cm hs n v) n = removeHeader cm hs n := by
  rcases findHeader_cases cm hs n with ⟨_, hfree⟩ | ⟨pre, h, post, _, rfl, hpre, hc⟩
  · rw [(surgery_free cm hfree v).1]
  · rw [(surgery_split cm hpre hc post v).1, (surgery_split cm hpre hc post v).2.1,
      (surgery_split cm hpre (h := ⟨h.name, v⟩) hc post v).2.1]

theorem setFirst_setFirst (n : Bytes) (hs : List Header) (v w : HVal) :
    setFirst cm (setFirst cm hs n v) n w = setFirst cm hs n w := by
  rcases findHeader_cases cm hs n with ⟨_, hfree⟩ | ⟨pre, h, post, _, rfl, hpre, hc⟩
  · rw [(surgery_free cm hfree v).1]
  · rw [(surgery_split cm hpre hc post v).1, (surgery_split cm hpre hc post w).1,
      (surgery_split cm hpre (h := ⟨h.name, v⟩) hc post w).1]

variable {β : Type} (p : Bytes → Bool) (obs : Header → β)

/-- Rewriting the value of the first header of class `n`: invisible to `obs` over the headers `p`
selects, when that header is not selected or `obs` cannot tell the new value from the old. -/
theorem filter_map_setFirst (hs : List Header) (n : Bytes) (v : HVal)
    (H : ∀ h, findHeader cm hs n = some h → p h.name = false ∨ obs ⟨h.name, v⟩ = obs h) :
    ((setFirst cm hs n v).filter (fun h => p h.name)).map obs = (hs.filter (fun h => p h.name)).map obs := by
  rcases findHeader_cases cm hs n with ⟨_, hfree⟩ | ⟨pre, h, post, hf, rfl, hpre, hc⟩
  · rw [(surgery_free cm hfree v).1]
  · rw [(surgery_split cm hpre hc post v).1]
    simp only [List.filter_append, List.filter_cons, List.map_append]
    rcases H h hf with hp | ho
    · simp [hp]
    · cases hp : p h.name <;> simp [ho]

theorem filter_removeHeader (hs : List Header) (n : Bytes)
    (H : ∀ h, findHeader cm hs n = some h → p h.name = false) :
    (removeHeader cm hs n).filter (fun h => p h.name) = hs.filter (fun h => p h.name) := by
  rcases findHeader_cases cm hs n with ⟨_, hfree⟩ | ⟨pre, h, post, hf, rfl, hpre, hc⟩
  · rw [(surgery_free cm hfree (.raw [])).2.1]
  · rw [(surgery_split cm hpre hc post (.raw [])).2.1]
    simp [List.filter_append, H h hf]

theorem filter_insertAt {α : Type} (q : α → Bool) (l : List α) (pos : Nat) (x : α) (hx : q x = false) :
    (insertAt l pos x).filter q = l.filter q := by
  simp only [insertAt, List.filter_append, List.filter_cons, hx, Bool.false_eq_true, ↓reduceIte]
  rw [← List.filter_append, List.take_append_drop]

theorem forEachViaHeaders_cons (h : Header) (hs : List Header) :
    forEachViaHeaders cm (h :: hs) =
      if !isSameHeader cm h.name viaName then (h :: (forEachViaHeaders cm hs).1, (forEachViaHeaders cm hs).2)
      else
        match h.value with
        | .via v => (h :: (forEachViaHeaders cm hs).1, v ++ (forEachViaHeaders cm hs).2)
        | .raw s =>
          match parseVia s with
          | none => (h :: (forEachViaHeaders cm hs).1, (forEachViaHeaders cm hs).2)
          | some v => ({ name := h.name, value := .via v } :: (forEachViaHeaders cm hs).1,
                       v ++ (forEachViaHeaders cm hs).2)
        | _ => (h :: (forEachViaHeaders cm hs).1, (forEachViaHeaders cm hs).2) := by
  rw [forEachViaHeaders]
  rcases forEachViaHeaders cm hs with ⟨hs', vs⟩
  rfl

def decodeVia (h : Header) : Header :=
  match h.value with
  | .raw s =>
    match parseVia s with
    | some v => { name := h.name, value := .via v }
    | none => h
  | _ => h

theorem forEachViaHeaders_fst (hs : List Header) :
    (forEachViaHeaders cm hs).1 = hs.map fun h => if isSameHeader cm h.name viaName then decodeVia h else h := by
  induction hs with
  | nil => rfl
  | cons h hs ih =>
    rw [forEachViaHeaders_cons, List.map_cons, ← ih]
    cases isSameHeader cm h.name viaName
    · rfl
    · obtain ⟨nm, val⟩ := h
      cases val with
      | raw s =>
        simp only [Bool.not_true, Bool.false_eq_true, ↓reduceIte, decodeVia]
        cases parseVia s <;> rfl
      | _ => rfl

theorem filter_map_map (f : Header → Header) (hs : List Header)
    (H : ∀ h, (f h).name = h.name ∧ (p h.name = false ∨ obs (f h) = obs h)) :
    ((hs.map f).filter (fun h => p h.name)).map obs = (hs.filter (fun h => p h.name)).map obs := by
  induction hs with
  | nil => rfl
  | cons h hs ih =>
    obtain ⟨h1, h2⟩ := H h
    simp only [List.map_cons, List.filter_cons, h1]
    rcases h2 with h2 | h2
    · simp [h2, ih]
    · split <;> simp [h2, ih]

theorem filter_map_forEachVia (hs : List Header)
    (H : ∀ nm s v, isSameHeader cm nm viaName = true → parseVia s = some v →
      p nm = false ∨ obs ⟨nm, .via v⟩ = obs ⟨nm, .raw s⟩) :
    ((forEachViaHeaders cm hs).1.filter (fun h => p h.name)).map obs =
      (hs.filter (fun h => p h.name)).map obs := by
  rw [forEachViaHeaders_fst]
  refine filter_map_map p obs _ hs fun h => ?_
  cases hc : isSameHeader cm h.name viaName with
  | false => exact ⟨rfl, Or.inr rfl⟩
  | true =>
    obtain ⟨nm, val⟩ := h
    cases val with
    | raw s =>
      simp only [↓reduceIte, decodeVia]
      cases hp : parseVia s with
      | none => exact ⟨rfl, Or.inr rfl⟩
      | some v => exact ⟨rfl, H nm s v hc hp⟩
    | _ => exact ⟨rfl, Or.inr rfl⟩

end Surgery

/-! ### the five lazy getters are one -/

/-- what distinguishes one typed getter from another: the class, the parser, the `HVal`
constructor the decoded value is kept under (`inj`), and its partial inverse (`sel`) -/
structure Slot (α : Type) where
  name : Bytes
  parse : Bytes → Option α
  inj : α → HVal
  sel : HVal → Option α
  sel_inj : ∀ a, sel (inj a) = some a
  sel_some : ∀ v a, sel v = some a → v = inj a
  sel_raw : ∀ s, sel (.raw s) = none

/-- what a getter makes of a value: the decoded value it holds, or what its text decodes to -/
def Slot.read {α : Type} (S : Slot α) (v : HVal) : Option α :=
  match S.sel v with
  | some a => some a
  | none => match v with
    | .raw s => S.parse s
    | _ => none

theorem Slot.read_inj {α : Type} (S : Slot α) (a : α) : S.read (S.inj a) = some a := by
  simp [Slot.read, S.sel_inj]

theorem Slot.read_raw {α : Type} (S : Slot α) (s : Bytes) : S.read (.raw s) = S.parse s := by
  simp [Slot.read, S.sel_raw]

theorem Slot.read_eq_some {α : Type} (S : Slot α) {v : HVal} {a : α} (h : S.read v = some a) :
    v = S.inj a ∨ ∃ s, v = .raw s ∧ S.parse s = some a := by
  unfold Slot.read at h
  split at h
  · rename_i b hb
    cases h
    exact Or.inl (S.sel_some v _ hb)
  · split at h
    · exact Or.inr ⟨_, rfl, h⟩
    · cases h

section Lazy
variable (cm : List (Bytes × Bytes)) {α : Type} (S : Slot α)

/-- first header of the class: already decoded → as it is; text → decode, and write the decoded
value back in place -/
def getLazy (m : Message) : Option (α × Message) :=
  match findHeader cm m.headers S.name with
  | none => none
  | some h =>
    match S.sel h.value with
    | some a => some (a, m)
    | none =>
      match h.value with
      | .raw s =>
        match S.parse s with
        | none => none
        | some a => some (a, { m with headers := setFirst cm m.headers S.name (S.inj a) })
      | _ => none

end Lazy

def viaSlot : Slot (List ViaParam) where
  name := viaName
  parse := parseVia
  inj := .via
  sel | .via v => some v | _ => none
  sel_inj _ := rfl
  sel_some v a h := by cases v <;> simp_all
  sel_raw _ := rfl

def routeSlot : Slot (List RouteParam) where
  name := routeName
  parse := parseRoute
  inj := .route
  sel | .route v => some v | _ => none
  sel_inj _ := rfl
  sel_some v a h := by cases v <;> simp_all
  sel_raw _ := rfl

/-- Record-Route has no getter of its own; its slot serves the stack of the class -/
def rrSlot : Slot (List RouteParam) where
  name := recordRouteName
  parse := parseRoute
  inj := .recordRoute
  sel | .recordRoute v => some v | _ => none
  sel_inj _ := rfl
  sel_some v a h := by cases v <;> simp_all
  sel_raw _ := rfl

def fromSlot : Slot FromTo where
  name := fromName
  parse := parseFromTo
  inj := .fromSpec
  sel | .fromSpec v => some v | _ => none
  sel_inj _ := rfl
  sel_some v a h := by cases v <;> simp_all
  sel_raw _ := rfl

def toSlot : Slot FromTo where
  name := toName
  parse := parseFromTo
  inj := .to
  sel | .to v => some v | _ => none
  sel_inj _ := rfl
  sel_some v a h := by cases v <;> simp_all
  sel_raw _ := rfl

def cseqSlot : Slot CSeq where
  name := cseqName
  parse := parseCSeq
  inj := .cseq
  sel | .cseq v => some v | _ => none
  sel_inj _ := rfl
  sel_some v a h := by cases v <;> simp_all
  sel_raw _ := rfl

section Lazy
variable (cm : List (Bytes × Bytes))

theorem getVia_eq (m : Message) : getVia cm m = getLazy cm viaSlot m := by
  unfold getVia getLazy viaSlot
  dsimp only
  cases findHeader cm m.headers viaName with
  | none => rfl
  | some h =>
    obtain ⟨nm, v⟩ := h
    cases v with
    | raw s => dsimp only; cases parseVia s <;> rfl
    | _ => rfl

theorem getRoute_eq (m : Message) : getRoute cm m = getLazy cm routeSlot m := by
  unfold getRoute getLazy routeSlot
  dsimp only
  cases findHeader cm m.headers routeName with
  | none => rfl
  | some h =>
    obtain ⟨nm, v⟩ := h
    cases v with
    | raw s => dsimp only; cases parseRoute s <;> rfl
    | _ => rfl

theorem getFrom_eq (m : Message) : getFrom cm m = getLazy cm fromSlot m := by
  unfold getFrom getLazy fromSlot
  dsimp only
  cases findHeader cm m.headers fromName with
  | none => rfl
  | some h =>
    obtain ⟨nm, v⟩ := h
    cases v with
    | raw s => dsimp only; cases parseFromTo s <;> rfl
    | _ => rfl

theorem getTo_eq (m : Message) : getTo cm m = getLazy cm toSlot m := by
  unfold getTo getLazy toSlot
  dsimp only
  cases findHeader cm m.headers toName with
  | none => rfl
  | some h =>
    obtain ⟨nm, v⟩ := h
    cases v with
    | raw s => dsimp only; cases parseFromTo s <;> rfl
    | _ => rfl

theorem getCSeq_eq (m : Message) : getCSeq cm m = getLazy cm cseqSlot m := by
  unfold getCSeq getLazy cseqSlot
  dsimp only
  cases findHeader cm m.headers cseqName with
  | none => rfl
  | some h =>
    obtain ⟨nm, v⟩ := h
    cases v with
    | raw s => dsimp only; cases parseCSeq s <;> rfl
    | _ => rfl

variable {α : Type} (S : Slot α)

theorem setFirst_self (n : Bytes) (hs : List Header) (h : Header) (hf : findHeader cm hs n = some h) :
    setFirst cm hs n h.value = hs := by
  obtain ⟨pre, post, rfl, hpre, hc⟩ := findHeader_eq_some cm hf
  exact (surgery_split cm hpre hc post h.value).1

theorem getLazy_fst (m : Message) :
    (getLazy cm S m).map Prod.fst = (findHeader cm m.headers S.name).bind fun h => S.read h.value := by
  unfold getLazy Slot.read
  cases findHeader cm m.headers S.name with
  | none => rfl
  | some h =>
    simp only [Option.bind_some]
    cases S.sel h.value with
    | some a => rfl
    | none =>
      simp only []
      cases h.value with
      | raw s => simp only []; cases S.parse s <;> rfl
      | _ => rfl

/-- The getter inverted: whatever branch was taken, the message returned is the old one with the
decoded value written into the first header of the class (a no-op when it was already decoded). -/
theorem getLazy_some {m m' : Message} {a : α} (h : getLazy cm S m = some (a, m')) :
    ∃ hd, findHeader cm m.headers S.name = some hd ∧ S.read hd.value = some a ∧
      m' = { m with headers := setFirst cm m.headers S.name (S.inj a) } := by
  have hfst := getLazy_fst cm S m
  rw [h] at hfst
  unfold getLazy at h
  cases hf : findHeader cm m.headers S.name with
  | none => simp [hf] at h
  | some hd =>
    rw [hf] at hfst
    refine ⟨hd, rfl, hfst.symm, ?_⟩
    simp only [hf] at h
    split at h
    · rename_i b hb
      simp only [Option.some.injEq, Prod.mk.injEq] at h
      obtain ⟨rfl, rfl⟩ := h
      rw [← S.sel_some _ _ hb, setFirst_self cm _ _ hd hf]
    · split at h
      · split at h
        · cases h
        · simp only [Option.some.injEq, Prod.mk.injEq] at h
          obtain ⟨rfl, rfl⟩ := h
          rfl
      · cases h

end Lazy

section Lazy
variable (cm : List (Bytes × Bytes)) {α : Type} (S : Slot α)

theorem findHeader_some {hs : List Header} {n : Bytes} {h : Header} (hf : findHeader cm hs n = some h) :
    h ∈ hs ∧ isSameHeader cm h.name n = true := by
  unfold findHeader at hf
  exact ⟨List.mem_of_find?_eq_some hf, by simpa using List.find?_some hf⟩

theorem findHeader_setFirst (n : Bytes) (hs : List Header) (h : Header) (v : HVal) (hf : findHeader cm hs n = some h) :
    findHeader cm (setFirst cm hs n v) n = some { name := h.name, value := v } := by
  obtain ⟨pre, post, rfl, hpre, hc⟩ := findHeader_eq_some cm hf
  rw [(surgery_split cm hpre hc post v).1]
  exact findHeader_split cm hpre (h := ⟨h.name, v⟩) hc post

theorem getLazy_idem {m m' : Message} {a : α} (h : getLazy cm S m = some (a, m')) :
    getLazy cm S m' = some (a, m') := by
  obtain ⟨hd, hf, _, rfl⟩ := getLazy_some cm S h
  simp [getLazy, findHeader_setFirst cm S.name m.headers hd (S.inj a) hf, S.sel_inj]

end Lazy

/-! ### the two pops are one -/

section Pop
variable (cm : List (Bytes × Bytes)) {β : Type} (S : Slot (List β))

/-- drop the first entry of the list the first header of the class holds; drop the header when it
held at most one -/
def popLazy (m : Message) : Option Message :=
  match getLazy cm S m with
  | none => none
  | some (v, m') =>
    if v.length > 1 then some { m' with headers := setFirst cm m'.headers S.name (S.inj v.tail) }
    else some { m' with headers := removeHeader cm m'.headers S.name }

theorem popVia_eq (m : Message) : popVia cm m = popLazy cm viaSlot m := by
  unfold popVia popLazy
  rw [getVia_eq]
  cases getLazy cm viaSlot m <;> rfl

theorem popRoute_eq (m : Message) : popRoute cm m = popLazy cm routeSlot m := by
  unfold popRoute popLazy
  rw [getRoute_eq]
  cases getLazy cm routeSlot m <;> rfl

theorem popLazy_isSome (m : Message) : (popLazy cm S m).isSome = (getLazy cm S m).isSome := by
  unfold popLazy
  cases getLazy cm S m with
  | none => rfl
  | some q => obtain ⟨v, m1⟩ := q; simp only []; split <;> rfl

/-- The pop inverted: the list the getter read loses its first entry and is written over what the
getter wrote back, or the header goes when nothing is left. -/
theorem popLazy_some {m m' : Message} (h : popLazy cm S m = some m') :
    ∃ v m1, getLazy cm S m = some (v, m1) ∧
      ((v.tail ≠ [] ∧ m' = { m with headers := setFirst cm m.headers S.name (S.inj v.tail) }) ∨
       (v.tail = [] ∧ m' = { m with headers := removeHeader cm m.headers S.name })) := by
  unfold popLazy at h
  split at h
  · cases h
  · rename_i v m1 hg
    obtain ⟨_, _, _, rfl⟩ := getLazy_some cm S hg
    refine ⟨v, _, hg, ?_⟩
    split at h <;> cases h <;> rename_i hl
    · exact Or.inl ⟨List.ne_nil_of_length_pos (by rw [List.length_tail]; omega), by simp only [setFirst_setFirst]⟩
    · exact Or.inr ⟨List.eq_nil_of_length_eq_zero (by rw [List.length_tail]; omega),
        by simp only [removeHeader_setFirst]⟩

end Pop

structure Pre (Q : Message → Message → Prop) : Prop where
  refl : ∀ m, Q m m
  trans : ∀ {a b c}, Q a b → Q b c → Q a c

def Keeps {α : Type} (Q : Message → Message → Prop) (g : Message → Option (α × Message)) : Prop :=
  ∀ {m a m'}, g m = some (a, m') → Q m m'

def KeepsO (Q : Message → Message → Prop) (g : Message → Option Message) : Prop :=
  ∀ {m m'}, g m = some m' → Q m m'

theorem Pre.getD {Q : Message → Message → Prop} (hQ : Pre Q) {g : Message → Option Message} (k : KeepsO Q g)
    (m : Message) : Q m ((g m).getD m) := by
  cases h : g m with
  | none => exact hQ.refl m
  | some m' => exact k h

section FrameDef
variable {β : Type} (p : Bytes → Bool) (obs : Header → β)

structure Frame (m m' : Message) : Prop where
  start : m'.start = m.start
  body : m'.body = m.body
  headers : (m'.headers.filter (fun h => p h.name)).map obs = (m.headers.filter (fun h => p h.name)).map obs

theorem frame_pre : Pre (Frame p obs) :=
  ⟨fun _ => ⟨rfl, rfl, rfl⟩,
   fun h1 h2 => ⟨h2.start.trans h1.start, h2.body.trans h1.body, h2.headers.trans h1.headers⟩⟩

/-- a coarser observation sees no more -/
theorem Frame.mono {γ : Type} {p : Bytes → Bool} {obs : Header → β} {m m' : Message} (f : β → γ)
    (h : Frame p obs m m') : Frame p (fun x => f (obs x)) m m' :=
  ⟨h.start, h.body, by
    have := congrArg (List.map f) h.headers
    rwa [List.map_map, List.map_map] at this⟩

variable (cm : List (Bytes × Bytes))

theorem Frame.getLazy_fst {α : Type} (S : Slot α) {m m' : Message}
    (h : Frame (fun x => isSameHeader cm x S.name) (fun h => S.read h.value) m m') :
    (getLazy cm S m').map Prod.fst = (getLazy cm S m).map Prod.fst := by
  have key : ∀ hs, (findHeader cm hs S.name).bind (fun h => S.read h.value) =
      (((hs.filter (fun h => isSameHeader cm h.name S.name)).map (fun h => S.read h.value)).head?).bind id := by
    intro hs
    simp [findHeader, List.head?_map, ← List.head?_filter, Option.bind_map]
  rw [Lemmas.getLazy_fst, Lemmas.getLazy_fst, key, key, h.headers]

/-- decoding in slot `S` cannot be seen: its class is not selected, or `obs` does not tell a text
from its decoded form -/
def Blind {α : Type} (S : Slot α) : Prop :=
  ∀ nm s a, isSameHeader cm nm S.name = true → S.parse s = some a →
    p nm = false ∨ obs ⟨nm, S.inj a⟩ = obs ⟨nm, .raw s⟩

def Hidden (n : Bytes) : Prop := ∀ x, isSameHeader cm x n = true → p x = false

theorem Hidden.blind {p : Bytes → Bool} {cm : List (Bytes × Bytes)} {α : Type} {S : Slot α}
    (h : Hidden p cm S.name) : Blind p obs cm S :=
  fun nm _ _ hc _ => Or.inl (h nm hc)

theorem frame_getLazy {α : Type} (S : Slot α) (hB : Blind p obs cm S) : Keeps (Frame p obs) (getLazy cm S) := by
  intro m a m' h
  obtain ⟨hd, hf, hr, rfl⟩ := getLazy_some cm S h
  refine ⟨rfl, rfl, filter_map_setFirst cm p obs _ _ _ fun h' hf' => ?_⟩
  rw [hf] at hf'
  cases hf'
  rcases S.read_eq_some hr with hv | ⟨s, hv, hp⟩
  · exact Or.inr (by rw [← hv])
  · obtain ⟨nm, val⟩ := hd
    subst hv
    exact hB nm s a (findHeader_some cm hf).2 hp

theorem frame_getVia (hB : Blind p obs cm viaSlot) : Keeps (Frame p obs) (getVia cm) :=
  fun h => frame_getLazy p obs cm viaSlot hB (getVia_eq cm _ ▸ h)
theorem frame_getRoute (hB : Blind p obs cm routeSlot) : Keeps (Frame p obs) (getRoute cm) :=
  fun h => frame_getLazy p obs cm routeSlot hB (getRoute_eq cm _ ▸ h)
theorem frame_getFrom (hB : Blind p obs cm fromSlot) : Keeps (Frame p obs) (getFrom cm) :=
  fun h => frame_getLazy p obs cm fromSlot hB (getFrom_eq cm _ ▸ h)
theorem frame_getTo (hB : Blind p obs cm toSlot) : Keeps (Frame p obs) (getTo cm) :=
  fun h => frame_getLazy p obs cm toSlot hB (getTo_eq cm _ ▸ h)
theorem frame_getCSeq (hB : Blind p obs cm cseqSlot) : Keeps (Frame p obs) (getCSeq cm) :=
  fun h => frame_getLazy p obs cm cseqSlot hB (getCSeq_eq cm _ ▸ h)

theorem Hidden.filter_setFirst {n : Bytes} (hH : Hidden p cm n) (hs : List Header) (v : HVal) :
    ((setFirst cm hs n v).filter (fun h => p h.name)).map obs = (hs.filter (fun h => p h.name)).map obs :=
  filter_map_setFirst cm p obs hs n v fun _ hf => Or.inl (hH _ (findHeader_some cm hf).2)

theorem Hidden.filter_removeHeader {n : Bytes} (hH : Hidden p cm n) (hs : List Header) :
    (removeHeader cm hs n).filter (fun h => p h.name) = hs.filter (fun h => p h.name) :=
  Lemmas.filter_removeHeader cm p hs n fun _ hf => hH _ (findHeader_some cm hf).2

theorem frame_setFirst_hidden {n : Bytes} (hH : Hidden p cm n) (m : Message) (v : HVal) :
    Frame p obs m { m with headers := setFirst cm m.headers n v } :=
  ⟨rfl, rfl, hH.filter_setFirst p obs cm _ v⟩

theorem frame_popLazy {γ : Type} (S : Slot (List γ)) (hH : Hidden p cm S.name) :
    KeepsO (Frame p obs) (popLazy cm S) := by
  intro m m' h
  obtain ⟨_, _, _, ⟨_, rfl⟩ | ⟨_, rfl⟩⟩ := popLazy_some cm S h
  · exact frame_setFirst_hidden p obs cm hH m _
  · exact ⟨rfl, rfl, congrArg _ (hH.filter_removeHeader p cm _)⟩

theorem frame_popRoute (hH : Hidden p cm routeName) : KeepsO (Frame p obs) (popRoute cm) :=
  fun h => frame_popLazy p obs cm routeSlot hH (popRoute_eq cm _ ▸ h)
theorem frame_popVia (hH : Hidden p cm viaName) : KeepsO (Frame p obs) (popVia cm) :=
  fun h => frame_popLazy p obs cm viaSlot hH (popVia_eq cm _ ▸ h)

theorem frame_setReceived (hH : Hidden p cm viaName) (m : Message) (ip : Bytes) (port : Int) :
    Frame p obs m (setReceived cm m ip port) := by
  unfold setReceived
  split
  · exact (frame_pre p obs).refl m
  · rename_i v m1 hv
    have h1 := frame_getVia p obs cm (hH.blind obs) hv
    split
    · exact h1
    · exact (frame_pre p obs).trans h1 (frame_setFirst_hidden p obs cm hH m1 _)

theorem frame_insertAt (m : Message) (pos : Nat) (x : Header) (hx : p x.name = false) :
    Frame p obs m { m with headers := insertAt m.headers pos x } :=
  ⟨rfl, rfl, congrArg _ (filter_insertAt _ _ _ _ hx)⟩

theorem frame_addVia (hH : Hidden p cm viaName) (m : Message) (vp : ViaParam) : Frame p obs m (addVia cm m vp) :=
  frame_insertAt p obs m _ _ (hH _ (isSameHeader_refl cm _))

theorem frame_addRecordRoute (hH : Hidden p cm recordRouteName) (m : Message) (rr : RouteParam) :
    Frame p obs m (addRecordRoute cm m rr) :=
  frame_insertAt p obs m _ _ (hH _ (isSameHeader_refl cm _))

theorem frame_forEachVia (hB : Blind p obs cm viaSlot) (m : Message) :
    Frame p obs m { m with headers := (forEachViaHeaders cm m.headers).1 } :=
  ⟨rfl, rfl, filter_map_forEachVia cm p obs _ hB⟩

end FrameDef

end Lemmas
