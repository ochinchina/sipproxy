/-
Lemmas.Headers — re-spelling header names inside their class (letter case, compact form) is
invisible to the typed getters: they find the same values and update the same positions.
Also the vocabulary for lifting a relation on messages through the operations of `Sip.Message`
(`GRel`, `HeadRel`, `ORel`, `PRel`) and the lift of the three derived getters (`getMethod`, `getDialog`,
`getClientTransaction`) from the facts about the primitive ones they call.
-/
import Sip.Message
import Lemmas.Hdr
open GoStd Sip

namespace Lemmas

section Defs
variable (R : Message → Message → Prop)

def HeadRel {α : Type} (r r' : Option (List α × Message)) : Prop :=
  (r = none ∧ r' = none) ∨
  ∃ v v' m1 m1', r = some (v, m1) ∧ r' = some (v', m1') ∧ v.head? = v'.head? ∧ R m1 m1'

def GRel {α : Type} (r r' : Option (α × Message)) : Prop :=
  (r = none ∧ r' = none) ∨ ∃ a m1 m1', r = some (a, m1) ∧ r' = some (a, m1') ∧ R m1 m1'

def ORel (r r' : Option Message) : Prop :=
  (r = none ∧ r' = none) ∨ ∃ m1 m1', r = some m1 ∧ r' = some m1' ∧ R m1 m1'

def PRel {α : Type} (r r' : α × Message) : Prop := r.1 = r'.1 ∧ R r.2 r'.2

end Defs

section
variable (cm : List (Bytes × Bytes)) (P : Bytes → Prop)

/-- `h'` is `h` with its name re-spelled: same value, and member of the same classes among the header
classes `P` that are looked at. -/
def Respelled (h h' : Header) : Prop :=
  h.value = h'.value ∧ ∀ name, P name → isSameHeader cm h.name name = isSameHeader cm h'.name name

inductive RespelledList : List Header → List Header → Prop where
  | nil : RespelledList [] []
  | cons {a b : Header} {l₁ l₂ : List Header} : Respelled cm P a b → RespelledList l₁ l₂ → RespelledList (a :: l₁) (b :: l₂)

/-- letter case never matters: `isSameHeader` sees the header's own name only through `toLower` -/
theorem isSameHeader_toLower (n n' name : Bytes) (h : toLower n = toLower n') :
    isSameHeader cm n name = isSameHeader cm n' name := by
  unfold isSameHeader equalFold
  rw [h]

theorem respelled_of_toLower (h h' : Header) (hv : h.value = h'.value) (hn : toLower h.name = toLower h'.name) :
    Respelled cm P h h' :=
  ⟨hv, fun name _ => isSameHeader_toLower cm _ _ name hn⟩

theorem respelled_refl (h : Header) : Respelled cm P h h := ⟨rfl, fun _ _ => rfl⟩

theorem setFirst_respelled (hs hs' : List Header) (H : RespelledList cm P hs hs')
    (name : Bytes) (hn : P name) (v : HVal) :
    RespelledList cm P (setFirst cm hs name v) (setFirst cm hs' name v) := by
  induction H with
  | nil => exact RespelledList.nil
  | @cons a b l₁ l₂ hr hrest ih =>
    simp only [setFirst]
    rw [← hr.2 name hn]
    cases isSameHeader cm a.name name with
    | true => exact RespelledList.cons ⟨rfl, hr.2⟩ hrest
    | false => exact RespelledList.cons hr ih

theorem findHeader_respelled {hs hs' : List Header} (H : RespelledList cm P hs hs') {name : Bytes} (hn : P name) :
    (findHeader cm hs name = none ∧ findHeader cm hs' name = none) ∨
    ∃ a b, findHeader cm hs name = some a ∧ findHeader cm hs' name = some b ∧ a.value = b.value := by
  unfold findHeader
  induction H with
  | nil => exact Or.inl ⟨rfl, rfl⟩
  | @cons a b l₁ l₂ hr _ ih =>
    simp only [List.find?_cons]
    rw [← hr.2 name hn]
    cases isSameHeader cm a.name name with
    | true => exact Or.inr ⟨a, b, rfl, rfl, hr.1⟩
    | false => exact ih

/-- Stated for any relation `R` that re-spelled header lists put between `m` and `m'`: the header lists
alone (`HdrRespelled`), or with start line and body (`MsgRespelled`). -/
theorem getLazy_respelled {α : Type} (S : Slot α) {R : Message → Message → Prop} {m m' : Message}
    (H : RespelledList cm P m.headers m'.headers) (hn : P S.name)
    (hR : ∀ {hs hs'}, RespelledList cm P hs hs' → R { m with headers := hs } { m' with headers := hs' }) :
    GRel R (getLazy cm S m) (getLazy cm S m') := by
  rcases findHeader_respelled cm P H hn with ⟨h1, h2⟩ | ⟨a, b, h1, h2, hv⟩
  · left; simp [getLazy, h1, h2]
  · unfold getLazy
    simp only [h1, h2, ← hv]
    cases S.sel a.value with
    | some v => exact Or.inr ⟨v, _, _, rfl, rfl, hR H⟩
    | none =>
      cases a.value with
      | raw s =>
        dsimp only
        cases S.parse s with
        | none => exact Or.inl ⟨rfl, rfl⟩
        | some v => exact Or.inr ⟨v, _, _, rfl, rfl, hR (setFirst_respelled cm P _ _ H _ hn _)⟩
      | _ => exact Or.inl ⟨rfl, rfl⟩

theorem getRawHeader_respelled (m m' : Message) (H : RespelledList cm P m.headers m'.headers)
    (name : Bytes) (hn : P name) : getRawHeader cm m name = getRawHeader cm m' name := by
  unfold getRawHeader
  rcases findHeader_respelled cm P H hn with ⟨h1, h2⟩ | ⟨a, b, h1, h2, hv⟩
  · rw [h1, h2]
  · rw [h1, h2]
    obtain ⟨an, av⟩ := a
    obtain ⟨bn, bv⟩ := b
    obtain rfl : av = bv := hv
    cases av <;> rfl

end

section Lift
variable {R : Message → Message → Prop} {cm : List (Bytes × Bytes)} {m m' : Message}

theorem ORel.getD {r r' : Option Message} (h : ORel R r r') (H : R m m') : R (r.getD m) (r'.getD m') := by
  rcases h with ⟨rfl, rfl⟩ | ⟨m1, m1', rfl, rfl, H1⟩
  · exact H
  · exact H1

theorem PRel.elim {α : Type} {r r' : α × Message} (h : PRel R r r') : ∃ a m m', r = (a, m) ∧ r' = (a, m') ∧ R m m' :=
  ⟨r.1, r.2, r'.2, rfl, by rw [h.1], h.2⟩

theorem head_cases {α : Type} {v v' : List α} (h : v.head? = v'.head?) :
    (v = [] ∧ v' = []) ∨ ∃ a t t', v = a :: t ∧ v' = a :: t' := by
  match v, v', h with
  | [], [], _ => exact Or.inl ⟨rfl, rfl⟩
  | a :: t, b :: t', h =>
    obtain rfl : a = b := by simpa using h
    exact Or.inr ⟨a, t, t', rfl, rfl⟩

theorem GRel.getMethod (hs : ∀ {m m'}, R m m' → m.start = m'.start)
    (hc : ∀ {m m'}, R m m' → GRel R (getCSeq cm m) (getCSeq cm m')) (H : R m m') :
    GRel R (getMethod cm m) (getMethod cm m') := by
  unfold Sip.getMethod
  rw [← hs H]
  cases m.start with
  | request method _ _ => exact Or.inr ⟨method, m, m', rfl, rfl, H⟩
  | status _ _ _ =>
    dsimp only
    rcases hc H with ⟨h1, h2⟩ | ⟨c, m1, m1', h1, h2, H1⟩
    · rw [h1, h2]; exact Or.inl ⟨rfl, rfl⟩
    · rw [h1, h2]; exact Or.inr ⟨c.method, m1, m1', rfl, rfl, H1⟩

theorem PRel.getDialog (hc : ∀ {m m'}, R m m' → getRawHeader cm m callIdName = getRawHeader cm m' callIdName)
    (hf : ∀ {m m'}, R m m' → GRel R (getFrom cm m) (getFrom cm m'))
    (ht : ∀ {m m'}, R m m' → GRel R (getTo cm m) (getTo cm m')) (H : R m m') :
    PRel R (getDialog cm m) (getDialog cm m') := by
  unfold Sip.getDialog
  rw [hc H]
  cases getRawHeader cm m' callIdName with
  | none => exact ⟨rfl, H⟩
  | some callId =>
    dsimp only
    rcases hf H with ⟨h1, h2⟩ | ⟨f, m1, m1', h1, h2, H1⟩
    · rw [h1, h2]; exact ⟨rfl, H⟩
    · rw [h1, h2]
      dsimp only
      cases f.getTag with
      | none => exact ⟨rfl, H1⟩
      | some ftag =>
        dsimp only
        rcases ht H1 with ⟨h3, h4⟩ | ⟨t, m2, m2', h3, h4, H2⟩
        · rw [h3, h4]; exact ⟨rfl, H1⟩
        · rw [h3, h4]
          dsimp only
          cases t.getTag with
          | none => exact ⟨rfl, H2⟩
          | some ttag => dsimp only; cases f.getAddrSpec <;> cases t.getAddrSpec <;> exact ⟨rfl, H2⟩

theorem PRel.getClientTransaction (hc : ∀ {m m'}, R m m' → GRel R (getCSeq cm m) (getCSeq cm m'))
    (hv : ∀ {m m'}, R m m' → HeadRel R (getVia cm m) (getVia cm m')) (H : R m m') :
    PRel R (getClientTransaction cm m) (getClientTransaction cm m') := by
  unfold Sip.getClientTransaction
  rcases hc H with ⟨h1, h2⟩ | ⟨c, m1, m1', h1, h2, H1⟩
  · rw [h1, h2]; exact ⟨rfl, H⟩
  · rw [h1, h2]
    dsimp only
    rcases hv H1 with ⟨h3, h4⟩ | ⟨v, v', m2, m2', h3, h4, hh, H2⟩
    · rw [h3, h4]; exact ⟨rfl, H1⟩
    · rw [h3, h4]
      dsimp only
      rcases head_cases hh with ⟨rfl, rfl⟩ | ⟨vp, t, t', rfl, rfl⟩
      · exact ⟨rfl, H2⟩
      · dsimp only
        cases getParam vp.params (str "branch") <;> exact ⟨rfl, H2⟩

end Lift

section
variable (cm : List (Bytes × Bytes)) (P : Bytes → Prop)

/-- re-spelled header lists, whatever the start lines and bodies -/
def HdrRespelled (m m' : Message) : Prop := RespelledList cm P m.headers m'.headers

theorem getLazy_respelledHdr {α : Type} (S : Slot α) {m m' : Message} (H : HdrRespelled cm P m m') (hn : P S.name) :
    GRel (HdrRespelled cm P) (getLazy cm S m) (getLazy cm S m') :=
  getLazy_respelled cm P S H hn id

end

end Lemmas
