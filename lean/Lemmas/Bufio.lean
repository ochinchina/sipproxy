/-
Lemmas.Bufio — the operational `bufio.Reader` of Reader/Bufio.lean agrees with the logical-stream
model (Sip.readLine / Sip.parseMessage / Reader.connLoop) for every segmentation of the stream and
every buffer size `N ≥ 2` (the hypothesis `hN : 2 ≤ N` of the readLine / parse* / connLoop theorems).
The recursive operations `copyN`, `readByte` are characterised (`copyN_split`, `readByte_split`) by how
they split the logical stream (`x ++ rest = stream`); `take`/`drop` appear only in the specifications.
-/
import Reader.Bufio
import Reader.Frame
import Lemmas.Bytes
import Lemmas.Message
open GoStd Sip

namespace Lemmas.Bufio
open Reader.Bufio Lemmas

/-- `ReadSlice('\n')` of a reader with capacity `N`, stated on the logical stream -/
def sliceSpec (N : Nat) (s : Bytes) : Slice × Bytes :=
  match cut 10 (s.take N) with
  | some (l, _) => (.line (l ++ [10]), s.drop (l.length + 1))
  | none => if N ≤ s.length then (.full (s.take N), s.drop N) else (.eof s, [])

/-! ### `sliceSpec` on the three shapes a stream can have -/

theorem sliceSpec_line (N : Nat) (l r : Bytes) (hl : (10 : UInt8) ∉ l) (hN : l.length < N) :
    sliceSpec N (l ++ 10 :: r) = (.line (l ++ [10]), r) := by
  obtain ⟨k, hk⟩ : ∃ k, N - l.length = k + 1 := ⟨N - l.length - 1, by omega⟩
  have ht : (l ++ 10 :: r).take N = l ++ 10 :: r.take k := by
    rw [List.take_append, List.take_of_length_le (by omega), hk, List.take_succ_cons]
  simp [sliceSpec, ht, cut_append_of_not_mem 10 l _ hl]

theorem sliceSpec_full (N : Nat) (p r : Bytes) (hp : (10 : UInt8) ∉ p) (hN : p.length = N) :
    sliceSpec N (p ++ r) = (.full p, r) := by
  simp [sliceSpec, cut_of_not_mem 10 p hp, ← hN]

theorem sliceSpec_eof (N : Nat) (s : Bytes) (hs : (10 : UInt8) ∉ s) (hN : s.length < N) :
    sliceSpec N s = (.eof s, []) := by
  simp [sliceSpec, List.take_of_length_le (Nat.le_of_lt hN), cut_of_not_mem 10 s hs, Nat.not_le.mpr hN]

theorem readSlice_spec (N : Nat) (src : List Bytes) (buf : Bytes) (hb : buf.length ≤ N) :
    (readSlice N src buf).1 = (sliceSpec N (buf ++ src.flatten)).1
    ∧ (readSlice N src buf).2.logical = (sliceSpec N (buf ++ src.flatten)).2
    ∧ (readSlice N src buf).2.buf.length ≤ N
    ∧ (∀ l, (readSlice N src buf).1 = .full l → (readSlice N src buf).2.buf = []) := by
  -- the cases follow the definition: source exhausted (1 LF in the buffer, 2 buffer full, 3 end of input);
  -- a segment waits (4 LF in the buffer, 5 buffer full, 6 the segment fits: read on, 7/8 fill up to N: LF / none)
  fun_induction readSlice N src buf with
  | case1 buf l rest hc =>
    obtain ⟨rfl, hl⟩ := cut_some 10 buf l rest hc
    simp at hb
    simp [sliceSpec_line N l _ hl (by omega), BR.logical]; omega
  | case2 buf hc hN =>
    have h := sliceSpec_full N buf [] ((cut_eq_none_iff 10 buf).mp hc) (by omega)
    rw [List.append_nil] at h
    simp [h, BR.logical]
  | case3 buf hc hN =>
    simp [sliceSpec_eof N buf ((cut_eq_none_iff 10 buf).mp hc) (by omega), BR.logical]
  | case4 seg more buf l rest hc =>
    obtain ⟨rfl, hl⟩ := cut_some 10 buf l rest hc
    simp at hb
    simp [sliceSpec_line N l _ hl (by omega), BR.logical]; omega
  | case5 seg more buf hc hN =>
    simp [sliceSpec_full N buf _ ((cut_eq_none_iff 10 buf).mp hc) (by omega), BR.logical]
  | case6 seg more buf hc hN hfit ih =>
    simpa [List.append_assoc] using ih (by simp; omega)
  | case7 seg more buf hc hN hfit k buf' l rest hc' =>
    have hs : buf ++ (seg :: more).flatten = buf' ++ (seg.drop k ++ more.flatten) := by
      rw [List.flatten_cons, List.append_assoc, ← List.append_assoc (seg.take k), List.take_append_drop]
    have hlen : buf'.length = N := by simp [buf', k]; omega
    obtain ⟨he, hl⟩ := cut_some 10 buf' l rest hc'
    rw [hs, he]
    rw [he] at hlen
    simp at hlen
    simp [sliceSpec_line N l _ hl (by omega), BR.logical]; omega
  | case8 seg more buf hc hN hfit k buf' hc' =>
    have hs : buf ++ (seg :: more).flatten = buf' ++ (seg.drop k ++ more.flatten) := by
      rw [List.flatten_cons, List.append_assoc, ← List.append_assoc (seg.take k), List.take_append_drop]
    have hlen : buf'.length = N := by simp [buf', k]; omega
    rw [hs]
    simp [sliceSpec_full N buf' _ ((cut_eq_none_iff 10 buf').mp hc') hlen, BR.logical]

def Inv (N : Nat) (b : BR) : Prop := b.buf.length ≤ N

/-- `ReadLine` on the logical stream -/
def fragSpec (N : Nat) (s : Bytes) : Option (Bytes × Bool × Bytes) :=
  match sliceSpec N s with
  | (.full l, r) => if l.getLast? == some 13 then some (l.dropLast, true, 13 :: r) else some (l, true, r)
  | (.eof l, r) => if l.isEmpty then none else some (l, false, r)
  | (.line l, r) => some (stripEol l.dropLast, false, r)

def joinSpec (N : Nat) : Nat → Bytes → Bytes → Option (Bytes × Bytes)
  | 0, _, _ => none
  | fuel + 1, acc, s =>
    match fragSpec N s with
    | none => none
    | some (l, true, r) => joinSpec N fuel (acc ++ l) r
    | some (l, false, r) => some (acc ++ l, r)

theorem getLast?_append_ne_nil (a l : Bytes) (h : l ≠ []) : (a ++ l).getLast? = l.getLast? := by
  obtain ⟨v, hv⟩ := Option.isSome_iff_exists.mp (by simpa using h : l.getLast?.isSome)
  simp [List.getLast?_append, hv]

/-! ### `fragSpec` on the same three shapes -/

theorem fragSpec_line (N : Nat) (l r : Bytes) (hl : (10 : UInt8) ∉ l) (hN : l.length < N) :
    fragSpec N (l ++ 10 :: r) = some (stripEol l, false, r) := by
  simp [fragSpec, sliceSpec_line N l r hl hN]

/-- a stream that begins with `N` bytes without LF: the fragment `p` is those bytes, less a final CR, which
is put back in front of the stream (`d` is what remains of `c`); so a CR that ends a fragment is followed
by more of the line -/
theorem fragSpec_full (N : Nat) (c t : Bytes) (hc : (10 : UInt8) ∉ c) (hN : N ≤ c.length) :
    ∃ p d, fragSpec N (c ++ t) = some (p, true, d ++ t) ∧ p ++ d = c ∧ N ≤ p.length + 1
      ∧ (p.getLast? = some 13 → d ≠ []) := by
  have hs : c ++ t = c.take N ++ (c.drop N ++ t) := by rw [← List.append_assoc, List.take_append_drop]
  have hlen : (c.take N).length = N := by simp; omega
  simp only [fragSpec, hs, sliceSpec_full N _ _ (fun h => hc (List.mem_of_mem_take h)) hlen]
  by_cases hl : (c.take N).getLast? = some 13
  · obtain ⟨p, hp⟩ := List.getLast?_eq_some_iff.mp hl
    refine ⟨p, 13 :: c.drop N, by simp [hp], ?_, ?_, fun _ => by simp⟩
    · rw [List.append_cons, ← hp, List.take_append_drop]
    · rw [hp] at hlen; simp at hlen; omega
  · exact ⟨c.take N, c.drop N, by simp [hl], List.take_append_drop N c, by omega, fun h => absurd h hl⟩

theorem fragSpec_eof (N : Nat) (s : Bytes) (hs : (10 : UInt8) ∉ s) (hN : s.length < N) :
    fragSpec N s = if s.isEmpty then none else some (s, false, []) := by
  simp [fragSpec, sliceSpec_eof N s hs hN]

theorem stripEol_append (acc c : Bytes) (h : acc.getLast? = some 13 → c ≠ []) :
    stripEol (acc ++ c) = acc ++ stripEol c := by
  by_cases hc : c = []
  · subst hc
    have : acc.getLast? ≠ some 13 := fun e => h e rfl
    simp [stripEol, this]
  · simp only [stripEol, getLast?_append_ne_nil _ _ hc]
    split
    · rw [List.dropLast_append_of_ne_nil hc]
    · rfl

/-- the join loop on a stream whose first line is `c`: fragments of `N` bytes are accumulated
until the one that holds the LF. `hI`: a CR that ends `acc` is followed by more of the line, so it is
not the line's final CR and stays (`stripEol_append`). -/
theorem joinSpec_line (N : Nat) (hN : 2 ≤ N) (fuel : Nat) (acc c rest : Bytes)
    (hc : (10 : UInt8) ∉ c) (hI : acc.getLast? = some 13 → c ≠ []) (hf : c.length + 2 ≤ fuel) :
    joinSpec N fuel acc (c ++ 10 :: rest) = some (stripEol (acc ++ c), rest) := by
  induction fuel generalizing acc c with
  | zero => omega
  | succ f ih =>
    rcases Nat.lt_or_ge c.length N with hlt | hge
    · simp [joinSpec, fragSpec_line N c rest hc hlt, stripEol_append acc c hI]
    · obtain ⟨p, d, hfrag, rfl, hlen, hcr⟩ := fragSpec_full N c (10 :: rest) hc hge
      have hp : p ≠ [] := by rintro rfl; simp at hlen; omega
      rw [joinSpec, hfrag]
      simp only
      rw [ih (acc ++ p) d (fun h => hc (by simp [h])) (by rw [getLast?_append_ne_nil _ _ hp]; exact hcr)
        (by simp at hf ⊢; omega), List.append_assoc]

theorem joinSpec_lf (N : Nat) (hN : 2 ≤ N) (fuel : Nat) (acc s c rest : Bytes)
    (hI : acc.getLast? = some 13 → s.head? ≠ some 10)
    (hc : cut 10 s = some (c, rest)) (hf : s.length + 1 ≤ fuel) :
    joinSpec N fuel acc s = some (stripEol (acc ++ c), rest) := by
  obtain ⟨rfl, hl⟩ := cut_some 10 s c rest hc
  refine joinSpec_line N hN fuel acc c rest hl (fun ha e => hI ha (by simp [e])) (by simp at hf; omega)

theorem joinSpec_no_lf (N : Nat) (fuel : Nat) (acc s : Bytes) (h : (10 : UInt8) ∉ s) :
    joinSpec N fuel acc s = none ∨ (s ≠ [] ∧ joinSpec N fuel acc s = some (acc ++ s, [])) := by
  induction fuel generalizing acc s with
  | zero => exact Or.inl rfl
  | succ f ih =>
    rcases Nat.lt_or_ge s.length N with hlt | hge
    · cases s <;> simp [joinSpec, fragSpec_eof N _ h hlt]
    · obtain ⟨p, d, hfrag, rfl, _, _⟩ := fragSpec_full N s [] h hge
      rw [List.append_nil, List.append_nil] at hfrag
      simp only [joinSpec, hfrag]
      rcases ih (acc ++ p) d (fun hm => h (by simp [hm])) with h1 | ⟨hne, h1⟩
      · exact Or.inl h1
      · exact Or.inr ⟨by simp [hne], by rw [h1, List.append_assoc]⟩

theorem readLineFrag_spec (N : Nat) (hN : 1 ≤ N) (b : BR) (hb : Inv N b) :
    (readLineFrag N b).map (fun x => (x.1, x.2.1, x.2.2.logical)) = fragSpec N b.logical
    ∧ ∀ x ∈ readLineFrag N b, Inv N x.2.2 := by
  obtain ⟨h1, h2, h3, h4⟩ := readSlice_spec N b.src b.buf hb
  unfold readLineFrag fragSpec
  rw [show b.logical = b.buf ++ b.src.flatten from rfl, ← Prod.eta (sliceSpec _ _), ← h1, ← h2]
  clear h1 h2
  revert h3 h4
  rcases readSlice N b.src b.buf with ⟨sl | l | l, b'⟩ <;> intro h3 h4
  · simpa [Inv] using h3
  · have hnil : b'.buf = [] := h4 l rfl
    by_cases hl : l.getLast? = some 13 <;> simp [hl, Inv, BR.logical, hnil]; omega
  · by_cases he : l.isEmpty <;> simp [he, Inv, h3]

theorem joinLoop_spec (N : Nat) (hN : 1 ≤ N) (fuel : Nat) (acc : Bytes) (b : BR) (hb : Inv N b) :
    (joinLoop N fuel acc b).map (fun x => (x.1, x.2.logical)) = joinSpec N fuel acc b.logical
    ∧ ∀ x ∈ joinLoop N fuel acc b, Inv N x.2 := by
  induction fuel generalizing acc b with
  | zero => simp [joinLoop, joinSpec]
  | succ f ih =>
    obtain ⟨h1, h2⟩ := readLineFrag_spec N hN b hb
    simp only [joinLoop, joinSpec, ← h1]
    rcases hr : readLineFrag N b with _ | ⟨l, _ | _, b'⟩
    · simp
    · simpa using h2 _ hr
    · simpa using ih (acc ++ l) b' (h2 _ hr)

/-- Whatever message.go's `readLine` returns is what `Sip.readLine` returns on the logical stream;
it can fail where `Sip.readLine` does not only on a stream without LF (a last fragment that fills
the buffer exactly is followed by io.EOF, and the line is lost). -/
theorem readLine_refines (N : Nat) (hN : 2 ≤ N) (b : BR) (hb : Inv N b) :
    (∀ line b', Reader.Bufio.readLine N b = some (line, b') →
      Sip.readLine b.logical = some (line, b'.logical) ∧ Inv N b')
    ∧ (Reader.Bufio.readLine N b = none → (10 : UInt8) ∉ b.logical) := by
  obtain ⟨h1, h2⟩ := joinLoop_spec N (by omega) (b.size + 2) [] b hb
  unfold Reader.Bufio.readLine
  cases hc : cut 10 b.logical with
  | some p =>
    rw [joinSpec_lf N hN _ [] _ p.1 p.2 (by simp) hc (by simp [BR.size]), List.nil_append] at h1
    constructor
    · intro line b' hr
      obtain ⟨hs, hl⟩ := cut_some 10 _ _ _ hc
      rw [hs, Lemmas.readLine_lf _ _ hl]
      exact ⟨by simpa [hr] using h1.symm, h2 _ hr⟩
    · intro hr; simp [hr] at h1
  | none =>
    have hlf := (cut_eq_none_iff 10 _).mp hc
    refine ⟨fun line b' hr => ⟨?_, h2 _ hr⟩, fun _ => hlf⟩
    rcases joinSpec_no_lf N (b.size + 2) [] b.logical hlf with hj | ⟨hne, hj⟩
    · simp [hj, hr] at h1
    · rw [hj, hr] at h1
      rw [readLine_no_lf _ hlf hne]
      simp at h1; simp [h1]

theorem readLine_lf (N : Nat) (hN : 2 ≤ N) (b : BR) (hb : Inv N b) (h : (10 : UInt8) ∈ b.logical) :
    ∃ line b', Reader.Bufio.readLine N b = some (line, b')
      ∧ Sip.readLine b.logical = some (line, b'.logical) ∧ Inv N b' := by
  obtain ⟨h1, h2⟩ := readLine_refines N hN b hb
  cases hr : Reader.Bufio.readLine N b with
  | none => exact absurd h (h2 hr)
  | some x => exact ⟨x.1, x.2, rfl, h1 _ _ hr⟩

theorem readLine_length (N : Nat) (hN : 2 ≤ N) (b : BR) (hb : Inv N b) (line : Bytes) (b' : BR)
    (h : Reader.Bufio.readLine N b = some (line, b')) :
    line.length + b'.logical.length ≤ b.logical.length ∧ b'.logical.length < b.logical.length :=
  Lemmas.readLine_length _ _ _ ((readLine_refines N hN b hb).1 line b' h).1

theorem copyN_split (src : List Bytes) (buf : Bytes) (n : Nat) :
    match copyN src buf n with
    | none => (buf ++ src.flatten).length < n
    | some (out, b') =>
      out ++ b'.logical = buf ++ src.flatten ∧ out.length = n ∧ b'.buf.length ≤ buf.length := by
  -- the cases follow the definition: nothing to copy (1); buffered bytes (2/3 all taken, the rest fails /
  -- succeeds; 4 they suffice); nothing buffered (5 no source; 6/7 a whole segment taken; 8 it suffices)
  fun_induction copyN src buf n with
  | case1 src buf => simp [BR.logical]
  | case2 src c buf n hfit hnone ih =>
    rw [hnone] at ih; simp at ih ⊢; omega
  | case3 src c buf n hfit out b' hsome ih =>
    rw [hsome] at ih; simp at ih ⊢; simp [ih]; omega
  | case4 src c buf n hfit =>
    simp [BR.logical, ← List.append_assoc]; omega
  | case5 n => simp
  | case6 seg more n hfit hnone ih =>
    rw [hnone] at ih; simp at ih ⊢; omega
  | case7 seg more n hfit out b' hsome ih =>
    rw [hsome] at ih; simp at ih ⊢; simp [ih]; omega
  | case8 seg more n hfit =>
    simp [BR.logical, ← List.append_assoc]; omega

theorem copyN_spec (src : List Bytes) (buf : Bytes) (n : Nat) :
    ((buf ++ src.flatten).length < n → copyN src buf n = none)
    ∧ (n ≤ (buf ++ src.flatten).length →
        ∃ b', copyN src buf n = some ((buf ++ src.flatten).take n, b')
          ∧ b'.logical = (buf ++ src.flatten).drop n ∧ b'.buf.length ≤ buf.length) := by
  have h := copyN_split src buf n
  rcases hc : copyN src buf n with _ | ⟨out, b'⟩ <;> rw [hc] at h
  · exact ⟨fun _ => rfl, fun hle => by omega⟩
  · obtain ⟨h1, h2, h3⟩ := h
    rw [← h1]
    refine ⟨fun hlt => by simp at hlt; omega, fun _ => ⟨b', ?_, ?_, h3⟩⟩
    · rw [List.take_left' h2]
    · rw [List.drop_left' h2]

theorem readByte_split (N : Nat) (hN : 1 ≤ N) (src : List Bytes) (buf : Bytes) (hb : buf.length ≤ N) :
    match readByte N src buf with
    | none => buf ++ src.flatten = []
    | some (c, b') => c :: b'.logical = buf ++ src.flatten ∧ b'.buf.length + 1 ≤ N := by
  fun_induction readByte N src buf with
  | case1 src c buf => simpa [BR.logical] using hb
  | case2 => simp
  | case3 seg more c rest hc =>
    have := List.length_take_le N seg
    rw [hc] at this
    refine ⟨?_, by simpa using this⟩
    simp only [BR.logical, List.flatten_cons, List.nil_append]
    rw [← List.cons_append, ← hc, ← List.append_assoc, List.take_append_drop]
  | case4 seg more hc ih =>
    have : seg = [] := by simpa [Nat.ne_of_gt hN] using hc
    simpa [this] using ih (by simp)

theorem skipWhiteSpace_spec (N : Nat) (hN : 1 ≤ N) (fuel : Nat) (b : BR) (hb : Inv N b)
    (hf : b.logical.length + 1 ≤ fuel) :
    (Reader.Bufio.skipWhiteSpace N fuel b).logical = Sip.skipWhiteSpace b.logical
    ∧ Inv N (Reader.Bufio.skipWhiteSpace N fuel b) := by
  induction fuel generalizing b with
  | zero => omega
  | succ f ih =>
    have h := readByte_split N hN b.src b.buf hb
    simp only [Reader.Bufio.skipWhiteSpace]
    rcases hr : readByte N b.src b.buf with _ | ⟨c, b'⟩ <;> rw [hr] at h
    · simp [BR.logical, h, Sip.skipWhiteSpace, Inv]
    · obtain ⟨hlog, hlen⟩ := h
      have hlog' : b.logical = c :: b'.logical := hlog.symm
      by_cases hw : isWhiteSpace c
      · have := ih b' (by unfold Inv; omega) (by rw [hlog'] at hf; simp at hf; omega)
        simpa [hw, hlog', Sip.skipWhiteSpace] using this
      · simp only [hw, Bool.false_eq_true, ↓reduceIte]
        refine ⟨?_, by simpa [Inv] using hlen⟩
        rw [hlog']
        simp [hw, Sip.skipWhiteSpace, BR.logical]

theorem parseHeaderLines_spec (N : Nat) (hN : 2 ≤ N) (fuel : Nat) (b : BR) (hb : Inv N b) :
    (Reader.Bufio.parseHeaderLines N fuel b).map (fun x => (x.1, x.2.logical))
      = Sip.parseHeaderLines fuel b.logical
    ∧ ∀ x ∈ Reader.Bufio.parseHeaderLines N fuel b, Inv N x.2 := by
  induction fuel generalizing b with
  | zero => simp [Reader.Bufio.parseHeaderLines, Sip.parseHeaderLines]
  | succ f ih =>
    obtain ⟨hsound, hnone⟩ := readLine_refines N hN b hb
    rcases hr : Reader.Bufio.readLine N b with _ | ⟨line, b'⟩
    · simp [Reader.Bufio.parseHeaderLines, hr, parseHeaderLines_no_lf _ _ (hnone hr)]
    · obtain ⟨hfl, hb'⟩ := hsound _ _ hr
      obtain ⟨ih1, ih2⟩ := ih b' hb'
      simp only [Reader.Bufio.parseHeaderLines, Sip.parseHeaderLines, hr, hfl, ← ih1]
      split
      · simpa using hb'
      · cases cut 58 line with
        | none => simp
        | some p =>
          rcases hp : Reader.Bufio.parseHeaderLines N f b' with _ | ⟨hs, b''⟩
          · simp
          · simpa using ih2 _ hp

def flatResult : ParseResult → Option (Message × Bytes)
  | .ok m rest => some (m, rest)
  | .error => none

theorem udpParse_eq (cm : List (Bytes × Bytes)) (buf : Bytes) (n : Nat) :
    Reader.udpParse cm buf n = (flatResult (Sip.parseMessage cm (buf.take n))).map (·.1) := by
  unfold Reader.udpParse
  cases Sip.parseMessage cm (buf.take n) <;> rfl

theorem parseMessage_spec (N : Nat) (hN : 2 ≤ N) (cm : List (Bytes × Bytes)) (b : BR) (hb : Inv N b) :
    (Reader.Bufio.parseMessage N cm b).map (fun x => (x.1, x.2.logical))
      = flatResult (Sip.parseMessage cm b.logical)
    ∧ ∀ x ∈ Reader.Bufio.parseMessage N cm b, Inv N x.2 := by
  obtain ⟨hs1, hs2⟩ := skipWhiteSpace_spec N (by omega) (b.size + 1) b hb (by simp [BR.size])
  generalize hb0 : Reader.Bufio.skipWhiteSpace N (b.size + 1) b = b0 at hs1 hs2
  obtain ⟨hsound, hnone⟩ := readLine_refines N hN b0 hs2
  rcases hr : Reader.Bufio.readLine N b0 with _ | ⟨first, b1⟩
  · rw [parseMessage_no_lf_skip cm _ (by rw [← hs1]; exact hnone hr)]
    simp [Reader.Bufio.parseMessage, hb0, hr, flatResult]
  · obtain ⟨hfl, hb1⟩ := hsound _ _ hr
    obtain ⟨hp1, hp2⟩ := parseHeaderLines_spec N hN (b1.size + 1) b1 hb1
    unfold Reader.Bufio.parseMessage Sip.parseMessage
    simp only [hb0, hr, ← hs1, hfl, show b1.logical.length + 1 = b1.size + 1 from rfl, ← hp1]
    split
    · exact ⟨rfl, fun _ h => nomatch h⟩
    · rcases parseStartLine first with _ | sl
      · exact ⟨rfl, fun _ h => nomatch h⟩
      · rcases hp : Reader.Bufio.parseHeaderLines N (b1.size + 1) b1 with _ | ⟨hs, b2⟩
        · exact ⟨rfl, fun _ h => nomatch h⟩
        · simp only [Option.map_some]
          rcases getHeaderInt cm ⟨sl, hs, []⟩ contentLengthName with _ | cl
          · exact ⟨rfl, fun _ h => nomatch h⟩
          · simp only
            split
            · exact ⟨rfl, fun _ h => nomatch h⟩
            · -- the body: `copyN_spec` has the shape of the logical model's last step
              obtain ⟨hfail, hok⟩ := copyN_spec b2.src b2.buf cl.toNat
              by_cases hlen : b2.logical.length < cl.toNat
              · simp [hfail hlen, hlen, flatResult]
              · obtain ⟨b3, hc, hlog, hbuf⟩ := hok (Nat.le_of_not_lt hlen)
                simp only [hc, hlen, ↓reduceIte, flatResult, Option.map_some, hlog]
                exact ⟨rfl, fun _ hx => Option.mem_some.mp hx ▸ Nat.le_trans hbuf (hp2 _ hp)⟩

theorem connLoop_spec (N : Nat) (hN : 2 ≤ N) (cm : List (Bytes × Bytes)) (fuel : Nat) (b : BR)
    (hb : Inv N b) :
    Reader.Bufio.connLoop N cm fuel b = Reader.connLoopAux cm fuel b.logical := by
  induction fuel generalizing b with
  | zero => rfl
  | succ f ih =>
    obtain ⟨h1, h2⟩ := parseMessage_spec N hN cm b hb
    simp only [Reader.Bufio.connLoop, Reader.connLoopAux]
    rcases hp : Reader.Bufio.parseMessage N cm b with _ | ⟨m, b'⟩ <;> rw [hp] at h1 <;>
      rcases hf : Sip.parseMessage cm b.logical with ⟨m', rest⟩ | _ <;> rw [hf] at h1 <;>
      simp [flatResult] at h1 ⊢
    obtain ⟨rfl, rfl⟩ := h1
    simp [BR.size, ih b' (h2 _ hp)]

end Lemmas.Bufio
