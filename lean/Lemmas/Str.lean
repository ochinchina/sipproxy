/-
Lemmas.Str — the model's string constants. `str s` is `s.toUTF8.toList`, and `ByteArray.toList` is a
well-founded loop: the kernel does unfold it, at thousands of steps a byte. `str'` reads the same
bytes off the array's list directly; `str_eq` (in the simp set `fixture`) lets every evaluation of a
test vector take that road. The literal equations below are what proofs rewrite with (a few bytes
each: evaluated as they stand).
-/
import GoStd.Bytes
import Lemmas.Fixture
open GoStd

namespace Lemmas

theorem byteArray_toList_loop (bs : ByteArray) (i : Nat) (r : List UInt8) :
    ByteArray.toList.loop bs i r = r.reverse ++ bs.data.toList.drop i := by
  fun_induction ByteArray.toList.loop bs i r with
  | case1 i r h ih =>
    rw [ih]
    have h' : i < bs.data.toList.length := by simpa using h
    have h'' : i < bs.data.size := by simpa using h
    rw [List.drop_eq_getElem_cons h']
    have : bs.get! i = bs.data.toList[i] := by
      simp only [ByteArray.get!, Array.getElem_toList]
      exact getElem!_pos bs.data i h''
    simp [this]
  | case2 i r h =>
    have h' : bs.data.toList.length ≤ i := by simpa using h
    simp [List.drop_eq_nil_of_le h']

/-- the bytes of `str s`, without the loop -/
def str' (s : String) : Bytes := s.toByteArray.data.toList

@[fixture] theorem str_eq (s : String) : str s = str' s := by
  simp [str, str', String.toUTF8, ByteArray.toList, byteArray_toList_loop]

theorem str_tcp : str "tcp" = [116, 99, 112] := by decide +kernel
theorem str_udp : str "udp" = [117, 100, 112] := by decide +kernel
theorem str_tag : str "tag" = [116, 97, 103] := by decide +kernel
theorem str_sip : str "sip" = [115, 105, 112] := by decide +kernel
theorem str_sips : str "sips" = [115, 105, 112, 115] := by decide +kernel
theorem str_from : str "From" = [70, 114, 111, 109] := by decide +kernel
theorem str_to : str "To" = [84, 111] := by decide +kernel
theorem str_callId : str "Call-ID" = [67, 97, 108, 108, 45, 73, 68] := by decide +kernel
theorem str_branch : str "branch" = [98, 114, 97, 110, 99, 104] := by decide +kernel
theorem str_rport : str "rport" = [114, 112, 111, 114, 116] := by decide +kernel
theorem toLower_tcp : toLower (str "tcp") = str "tcp" := by decide +kernel

end Lemmas
