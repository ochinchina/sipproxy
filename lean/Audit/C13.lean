-- generated by /verif/mkaudit.py: axiom audit of every theorem in Props/C13.lean
import Props.C13
#print axioms Props.C13.routeStack_getNextRequestHopByRoute
#print axioms Props.C13.C13_keep
#print axioms Props.C13.C13_strip
#print axioms Props.C13.C13_hop
#print axioms Props.C13.C13_hop_abs
#print axioms Props.C13.C13_hop_none
#print axioms Props.C13.C13_port
#print axioms Props.C13.C13_other_stacks
#print axioms Props.C13.C13_own_route
#print axioms Props.C13.C13_own_route_head
#print axioms Props.C13.C13_designates
#print axioms Props.C13.C13_step
#print axioms Props.C13.lookupHost_eq
#print axioms Props.C13.C13_service_alias_overrides_global
#print axioms Props.C13.C13_global_alias_kept
