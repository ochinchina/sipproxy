-- generated by /verif/mkaudit.py: axiom audit of every theorem in Props/C06.lean
import Props.C06
#print axioms Props.C06.C06_insertSelf_via
#print axioms Props.C06.C06_insertSelf_rr
#print axioms Props.C06.real_hV
#print axioms Props.C06.insertSelf_start_body
#print axioms Props.C06.C06_insertSelf_route
#print axioms Props.C06.str_sip20
#print axioms Props.C06.str_branch
#print axioms Props.C06.str_branch0
#print axioms Props.C06.str_ltsip
#print axioms Props.C06.str_lr
#print axioms Props.C06.ownVia_encode
#print axioms Props.C06.C06_ownVia_shape_partial
#print axioms Props.C06.C06_ownVia_shape_empty
#print axioms Props.C06.C06_ownVia_shape_magic
#print axioms Props.C06.C06_ownVia_shape_port0
#print axioms Props.C06.C06_ownVia_fields
#print axioms Props.C06.C06_ownRecordRoute_shape
#print axioms Props.C06.C06_sendToBackend
#print axioms Props.C06.C06_sendToBackend_only
#print axioms Props.C06.C06_relay_learned
#print axioms Props.C06.C06_relay_unlearned
#print axioms Props.C06.C06_to_backend
#print axioms Props.C06.C06_step_backend
#print axioms Props.C06.C06_step_relay
#print axioms Props.C06.C06_step_cover
