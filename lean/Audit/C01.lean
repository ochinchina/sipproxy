-- generated by /verif/mkaudit.py: axiom audit of every theorem in Props/C01.lean
import Props.C01
#print axioms Props.C01.C01_insertSelf
#print axioms Props.C01.C01_handleRawMessage
#print axioms Props.C01.C01_handleDialog
#print axioms Props.C01.C01_getNextRequestHop
#print axioms Props.C01.C01_getNextRequestHopByRoute
#print axioms Props.C01.C01_responseHop
#print axioms Props.C01.C01_step
#print axioms Props.C01.C01_handleMessage
#print axioms Props.C01.encodeHeaders_eq
#print axioms Props.C01.contentLength_prefix
#print axioms Props.C01.C01_one_content_length
#print axioms Props.C01.C01_content_length_value
#print axioms Props.C01.C01_no_listed_content_length
#print axioms Props.C01.C01_printed_others
#print axioms Props.C01.C01_wire
#print axioms Props.C01.filter_map_toHeader
#print axioms Props.C01.C01_wire_to_wire
