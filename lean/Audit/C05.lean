-- generated by /verif/mkaudit.py: axiom audit of every theorem in Props/C05.lean
import Props.C05
#print axioms Props.C05.C05_consecutive_distinct
#print axioms Props.C05.C05_member
#print axioms Props.C05.C05_empty_drops
#print axioms Props.C05.C05_nonempty_sends
#print axioms Props.C05.dispatch_backends
#print axioms Props.C05.dispatchN_targets
#print axioms Props.C05.C05_window_perm
#print axioms Props.C05.dispatchN_add
#print axioms Props.C05.dispatchN_backends
#print axioms Props.C05.targetsN_add
#print axioms Props.C05.count_window
#print axioms Props.C05.count_partial
#print axioms Props.C05.count_blocks
#print axioms Props.C05.C05_counts
#print axioms Props.C05.wf_init
#print axioms Props.C05.wf_add
#print axioms Props.C05.wf_remove
#print axioms Props.C05.wf_dispatch
#print axioms Props.C05.C05_removed_gone
#print axioms Props.C05.C05_added_joins
#print axioms Props.C05.wf_step
#print axioms Props.C05.wf_run
#print axioms Props.C05.run_getElem?
#print axioms Props.C05.C05_run_member
#print axioms Props.C05.C05_racing
#print axioms Props.C05.obs_step
#print axioms Props.C05.oracle_sound_from
#print axioms Props.C05.C05_oracle_sound
#print axioms Props.C05.C05_oracle_sound_from
#print axioms Props.C05.oracle_members
