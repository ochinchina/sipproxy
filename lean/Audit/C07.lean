-- generated by /verif/mkaudit.py: axiom audit of every theorem in Props/C07.lean
import Props.C07
#print axioms Props.C07.received_ne_rport
#print axioms Props.C07.C07_received
#print axioms Props.C07.C07_rport_present
#print axioms Props.C07.C07_rport_absent
#print axioms Props.C07.C07_other_param
#print axioms Props.C07.C07_other_params_order
#print axioms Props.C07.C07_keys
#print axioms Props.C07.C07_length
#print axioms Props.C07.C07_other_fields
#print axioms Props.C07.C07_stack
#print axioms Props.C07.C07_stack_head
#print axioms Props.C07.C07_frame
#print axioms Props.C07.C07_handleRawMessage
#print axioms Props.C07.C07_step
#print axioms Props.C07.C07_step_enabled
#print axioms Props.C07.C07_step_disabled
