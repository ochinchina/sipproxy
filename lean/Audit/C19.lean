-- generated by /verif/mkaudit.py: axiom audit of every theorem in Props/C19.lean
import Props.C19
#print axioms Props.C19.worldStep_fail
#print axioms Props.C19.worldStep_ok
#print axioms Props.C19.rotInv_init
#print axioms Props.C19.rot_add_inv
#print axioms Props.C19.rot_add_mem
#print axioms Props.C19.rot_remove_inv
#print axioms Props.C19.rot_remove_mem
#print axioms Props.C19.applyChange_mem
#print axioms Props.C19.hostPort_v4
#print axioms Props.C19.hostPort_inj
#print axioms Props.C19.sync_init
#print axioms Props.C19.mem_sub
#print axioms Props.C19.sync_change
#print axioms Props.C19.C19_tracks
#print axioms Props.C19.C19_tolerance
#print axioms Props.C19.worldStep_fail_empties
#print axioms Props.C19.C19_fourth_empties
#print axioms Props.C19.sync_fail
#print axioms Props.C19.sync_foldl
#print axioms Props.C19.C19_history
#print axioms Props.C19.failLimit_is_three
