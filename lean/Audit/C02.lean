-- generated by /verif/mkaudit.py: axiom audit of every theorem in Props/C02.lean
import Props.C02
#print axioms Props.C02.getNextResponseHop_eq
#print axioms Props.C02.C02_hop
#print axioms Props.C02.C02_hop_none
#print axioms Props.C02.C02_hop_stack
#print axioms Props.C02.hop_some
#print axioms Props.C02.C02_sentby
#print axioms Props.C02.C02_received_rport
#print axioms Props.C02.C02_received_badrport
#print axioms Props.C02.C02_received_norport
#print axioms Props.C02.C02_port
#print axioms Props.C02.C02_no_hop_no_send
#print axioms Props.C02.C02_no_via_no_send
#print axioms Props.C02.C02_relay
#print axioms Props.C02.C02_remaining
#print axioms Props.C02.C02_handleMessage_out
#print axioms Props.C02.C02_step
#print axioms Props.C02.C02_step_raw
#print axioms Props.C02.C02_pair_rport
#print axioms Props.C02.C02_pair_no_rport
#print axioms Props.C02.C02_returns_to_true_source
