-- generated by /verif/mkaudit.py: axiom audit of every theorem in Props/C15.lean
import Props.C15
#print axioms Props.C15.mem_eraseKey
#print axioms Props.C15.mem_add
#print axioms Props.C15.mem_of_mem_get
#print axioms Props.C15.mem_step
#print axioms Props.C15.only_step
#print axioms Props.C15.run_induction
#print axioms Props.C15.Timed.le
#print axioms Props.C15.honoured_of_add
#print axioms Props.C15.C15_honoured
#print axioms Props.C15.get_of_dead
#print axioms Props.C15.dead_run
#print axioms Props.C15.C15_not_after
#print axioms Props.C15.C15_terminated
#print axioms Props.C15.sweepInv_init
#print axioms Props.C15.timeout_step
#print axioms Props.C15.lifetime_ge
#print axioms Props.C15.nextClean_get
#print axioms Props.C15.sweepInv_step
#print axioms Props.C15.sweepInv_run
#print axioms Props.C15.add_purges
#print axioms Props.C15.C15_purged
#print axioms Props.C15.C15_lifetime
#print axioms Props.C15.C15_configured_timeout_wins
#print axioms Props.C15.C15_default_timeout
#print axioms Props.C15.C15_environment_fills_in
#print axioms Props.C15.C15_timeout_per_service
