-- generated by /verif/mkaudit.py: axiom audit of every theorem in Props/C14.lean
import Props.C14
#print axioms Props.C14.C14_kv_decode_encode
#print axioms Props.C14.C14_kv_reencode
#print axioms Props.C14.C14_kv_stable
#print axioms Props.C14.C14_kv_reencode_any
#print axioms Props.C14.C14_kv_bare_equals_dropped
#print axioms Props.C14.ParamOK.no_semi
#print axioms Props.C14.C14_uri_params
#print axioms Props.C14.C14_uri_params_reencode
#print axioms Props.C14.C14_uri_params_stable
#print axioms Props.C14.C14_semi_params_kv
#print axioms Props.C14.C14_semi_params_generic
#print axioms Props.C14.C14_sip_uri
#print axioms Props.C14.C14_sip_uri_reencode
#print axioms Props.C14.exampleUri_dom
#print axioms Props.C14.exampleUri_text
#print axioms Props.C14.C14_uri_transport_explicit
#print axioms Props.C14.C14_uri_transport_default
#print axioms Props.C14.C14_uri_port_explicit
#print axioms Props.C14.C14_uri_port_default
#print axioms Props.C14.C14_sip_uri_extracts
#print axioms Props.C14.C14_abs_uri
#print axioms Props.C14.C14_abs_uri_reencode
#print axioms Props.C14.sip_uri_has_prefix
#print axioms Props.C14.C14_addr_spec
#print axioms Props.C14.C14_addr_spec_reencode
#print axioms Props.C14.C14_name_addr
#print axioms Props.C14.C14_name_addr_reencode
#print axioms Props.C14.uri_text_no_gt
#print axioms Props.C14.C14_via_param
#print axioms Props.C14.C14_via_param_reencode
#print axioms Props.C14.C14_via_get_param
#print axioms Props.C14.C14_via_get_param_absent
#print axioms Props.C14.C14_via_port_explicit
#print axioms Props.C14.C14_via_port_default
#print axioms Props.C14.C14_via_extracts
#print axioms Props.C14.exampleVia_dom
#print axioms Props.C14.ViaElemDom.text_no_comma
#print axioms Props.C14.C14_via_list
#print axioms Props.C14.C14_via_list_reencode
#print axioms Props.C14.GenParamOK.lemma_form
#print axioms Props.C14.C14_route_param
#print axioms Props.C14.C14_route_param_reencode
#print axioms Props.C14.RouteElemDom.text_no_comma
#print axioms Props.C14.C14_route_list
#print axioms Props.C14.C14_route_list_reencode
#print axioms Props.C14.exampleRoute1_dom
#print axioms Props.C14.exampleRoute2_dom
#print axioms Props.C14.C14_from_to_lossless
#print axioms Props.C14.C14_from_to_reencode
#print axioms Props.C14.C14_from_to
#print axioms Props.C14.C14_from_to_tag
#print axioms Props.C14.C14_from_to_tag_absent
#print axioms Props.C14.C14_from_to_extracts
#print axioms Props.C14.C14_cseq_lossless
#print axioms Props.C14.C14_cseq_reencode
#print axioms Props.C14.C14_cseq
