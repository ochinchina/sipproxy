-- generated by /verif/mkaudit.py: axiom audit of every theorem in Props/C10.lean
import Props.C10
#print axioms Props.C10.C10_local
#print axioms Props.C10.C10_stale_invisible
#print axioms Props.C10.C10_stale_invisible_fresh
#print axioms Props.C10.C10_bufio_local
#print axioms Props.C10.C10_bufio_stale_invisible
#print axioms Props.C10.C10_within_datagram
#print axioms Props.C10.C10_overdeclared
#print axioms Props.C10.C10_overdeclared_udp
#print axioms Props.C10.C10_truncated_no_lf
#print axioms Props.C10.C10_truncated_after_lines
#print axioms Props.C10.C10_truncated
#print axioms Props.C10.C10_truncated_udp
#print axioms Props.C10.inv_init
#print axioms Props.C10.inv_iff
#print axioms Props.C10.inv_alloc
#print axioms Props.C10.inv_free
#print axioms Props.C10.inv_step
#print axioms Props.C10.C10_pool_invariant
#print axioms Props.C10.C10_pool_exclusive
#print axioms Props.C10.C10_pool_held_distinct
#print axioms Props.C10.example_decoded
