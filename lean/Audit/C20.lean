-- generated by /verif/mkaudit.py: axiom audit of every theorem in Props/C20.lean
import Props.C20
#print axioms Props.C20.completed_attempts
#print axioms Props.C20.attempts_cons
#print axioms Props.C20.clientLoop_log
#print axioms Props.C20.backendLoop_log
#print axioms Props.C20.C20_client
#print axioms Props.C20.C20_backend
#print axioms Props.C20.completed_append
#print axioms Props.C20.C20_failover
#print axioms Props.C20.C20_fallback
#print axioms Props.C20.C20_fallback_backend
#print axioms Props.C20.C20_failover_to_secondary
#print axioms Props.C20.C20_refusal
#print axioms Props.C20.C20_refusal_backend
#print axioms Props.C20.C20_sticks
#print axioms Props.C20.retries_is_two
