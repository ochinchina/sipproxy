-- generated by /verif/mkaudit.py: axiom audit of every theorem in Props/C09.lean
import Props.C09
#print axioms Props.C09.step_effect
#print axioms Props.C09.mem_held_advance
#print axioms Props.C09.held_sound
#print axioms Props.C09.holder_complete
#print axioms Props.C09.held_iff_holder
#print axioms Props.C09.mutual_exclusion
#print axioms Props.C09.rel_by_holder
#print axioms Props.C09.acq_not_self
#print axioms Props.C09.C09_disciplined_no_race
#print axioms Props.C09.rowsOK_iff
#print axioms Props.C09.C09_table_disciplined_roles
#print axioms Props.C09.C09_table_disciplined
#print axioms Props.C09.C09_table_disciplined_all
#print axioms Props.C09.describesAny_of_roles
#print axioms Props.C09.C09_table_no_race
#print axioms Props.C09.disciplinedB_sound
#print axioms Props.C09.disciplinedB_iff
#print axioms Props.C09.C09_no_lock_cycle_no_deadlock
#print axioms Props.C09.C09_no_total_deadlock
#print axioms Props.C09.C09_progress
#print axioms Props.C09.C09_undisciplined_races
#print axioms Props.C09.C09_unbracketed_races
#print axioms Props.C09.C09_opposite_order_deadlocks
#print axioms Props.C09.opposite_no_order
#print axioms Props.C09.demo_wellBracketed
#print axioms Props.C09.demo_disciplined
#print axioms Props.C09.demo_balanced
#print axioms Props.C09.demo_lockOrder
#print axioms Props.C09.demoMid_reachable
#print axioms Props.C09.demoTable_describes
