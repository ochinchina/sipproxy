-- generated by /verif/mkaudit.py: axiom audit of every theorem in Props/C11.lean
import Props.C11
#print axioms Props.C11.C11_messages_then
#print axioms Props.C11.C11_exact_messages
#print axioms Props.C11.C11_segmentation_independent
#print axioms Props.C11.C11_any_split_exact
#print axioms Props.C11.C11_fragments_joined
#print axioms Props.C11.C11_fragments_uncopied_corrupt
#print axioms Props.C11.C11_single_fragment
#print axioms Props.C11.fresh_logical
#print axioms Props.C11.fresh_inv
#print axioms Props.C11.C11_bufio_refines
#print axioms Props.C11.C11_bufio_segmentation_independent
#print axioms Props.C11.C11_bufio_any_split_exact
#print axioms Props.C11.C11_bufio_readLine_any_length
#print axioms Props.C11.C11_bufio_udp
#print axioms Props.C11.exampleWire_ok
#print axioms Props.C11.exampleWireLF_ok
