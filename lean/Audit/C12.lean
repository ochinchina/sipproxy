-- generated by /verif/mkaudit.py: axiom audit of every theorem in Props/C12.lean
import Props.C12
#print axioms Props.C12.getClientTransaction_some
#print axioms Props.C12.C12_transaction_id_shape
#print axioms Props.C12.C12_key_tid_injective
#print axioms Props.C12.C12_key_injective
#print axioms Props.C12.C12_key_collision_with_dash
#print axioms Props.C12.C12_shared_ne_keyed
#print axioms Props.C12.C12_invariant_step
#print axioms Props.C12.C12_invariant
#print axioms Props.C12.C12_registered_lookup
#print axioms Props.C12.C12_other_transaction_other_key
#print axioms Props.C12.C12_two_connections_same_address
#print axioms Props.C12.C12_send_on_conn
#print axioms Props.C12.C12_sendMessage_on_conn
#print axioms Props.C12.C12_sendMessage_table
#print axioms Props.C12.C12_remove_exact
#print axioms Props.C12.C12_remove_unsupported
#print axioms Props.C12.C12_after_remove_fresh
#print axioms Props.C12.C12_request_registers
#print axioms Props.C12.C12_no_registration
#print axioms Props.C12.C12_response_on_request_connection
#print axioms Props.C12.C12_registration_key_is_lookup_key
#print axioms Props.C12.C12_same_hop_same_connection
#print axioms Props.C12.getCSeq_method_no_blank
#print axioms Props.C12.C12_tid_method_no_blank
#print axioms Props.C12.C12_distinct_transactions_distinct_keys
#print axioms Props.C12.cfg0_tcp
#print axioms Props.C12.stamped0
#print axioms Props.C12.hop0
#print axioms Props.C12.tid0
#print axioms Props.C12.tidR
#print axioms Props.C12.key0
#print axioms Props.C12.keyR
