/-
Expected.K07 - C07: received / rport stamping. Obligations on the regenerated fact F3 (tie A): the literals and the
comparison / arithmetic operators of these functions, in source order, are the ones the model was written from
(a changed constant, format string or comparison breaks the obligation before any input is run).
-/
import Expected.Lits

namespace Expected.K07

def lits (fn : String) : List String := ((Generated.literals.find? (fun e => e.1 == fn)).map (fun e => e.2)).getD ["<function not found>"]

theorem Message_SetReceived_shape : lits "Message.SetReceived" =
  ["op!=", "0", "op!=", "\"rport\"", "\"rport\"", "\"%d\""] := by rw [lits, literals_find]; decide +kernel

theorem ViaParam_SetReceived_shape : lits "ViaParam.SetReceived" =
  ["\"received\""] := by rw [lits, literals_find]; decide +kernel

end Expected.K07
