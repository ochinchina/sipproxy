/-
Expected.K18 - C18: the default entry. Obligations on the regenerated fact F3 (tie A): the literals and the
comparison / arithmetic operators of these functions, in source order, are the ones the model was written from
(a changed constant, format string or comparison breaks the obligation before any input is run).
-/
import Expected.Lits

namespace Expected.K18

def lits (fn : String) : List String := ((Generated.literals.find? (fun e => e.1 == fn)).map (fun e => e.2)).getD ["<function not found>"]

theorem PreConfigRoute_FindRoute_shape : lits "PreConfigRoute.FindRoute" =
  ["op&&", "op==", "\"default\"", "\"\"", "\"\"", "0", "\"fail to find route for %s\""] := by rw [lits, literals_find]; decide +kernel

end Expected.K18
