/-
Expected.K05 - C05: cursor arithmetic of the rotation. Obligations on the regenerated fact F3 (tie A): the literals and the
comparison / arithmetic operators of these functions, in source order, are the ones the model was written from
(a changed constant, format string or comparison breaks the obligation before any input is run).
-/
import Expected.Lits

namespace Expected.K05

def lits (fn : String) : List String := ((Generated.literals.find? (fun e => e.1 == fn)).map (fun e => e.2)).getD ["<function not found>"]

theorem RoundRobinBackend_getNextBackendIndex_shape : lits "RoundRobinBackend.getNextBackendIndex" =
  ["op<=", "0", "0", "\"no backend available\"", "op%", "op+", "1"] := by rw [lits, literals_find]; decide +kernel

theorem RoundRobinBackend_getBackend_shape : lits "RoundRobinBackend.getBackend" =
  ["op<=", "0", "\"no backend available at %d\"", "op%"] := by rw [lits, literals_find]; decide +kernel

end Expected.K05
