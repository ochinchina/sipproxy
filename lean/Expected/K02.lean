/-
Expected.K02 - C02: default ports and hop precedence. Obligations on the regenerated fact F3 (tie A): the literals and the
comparison / arithmetic operators of these functions, in source order, are the ones the model was written from
(a changed constant, format string or comparison breaks the obligation before any input is run).
-/
import Expected.Lits

namespace Expected.K02

def lits (fn : String) : List String := ((Generated.literals.find? (fun e => e.1 == fn)).map (fun e => e.2)).getD ["<function not found>"]

theorem ViaParam_GetPort_shape : lits "ViaParam.GetPort" =
  ["op!=", "0", "op==", "\"TLS\"", "5061", "5060"] := by rw [lits, literals_find]; decide +kernel

theorem SIPURI_GetPort_shape : lits "SIPURI.GetPort" =
  ["op!=", "0", "op==", "\"tls\"", "5061", "5060"] := by rw [lits, literals_find]; decide +kernel

theorem Proxy_getNextReponseHop_shape : lits "Proxy.getNextReponseHop" =
  ["op!=", "0", "op!=", "op==", "op!="] := by rw [lits, literals_find]; decide +kernel

theorem Message_IsFinalResponse_shape : lits "Message.IsFinalResponse" =
  ["op==", "op/", "100", "op&&"] := by rw [lits, literals_find]; decide +kernel

end Expected.K02
