/-
Expected.K12 - C12: transport key and transaction id formats. Obligations on the regenerated fact F3 (tie A): the literals and the
comparison / arithmetic operators of these functions, in source order, are the ones the model was written from
(a changed constant, format string or comparison breaks the obligation before any input is run).
-/
import Expected.Lits

namespace Expected.K12

def lits (fn : String) : List String := ((Generated.literals.find? (fun e => e.1 == fn)).map (fun e => e.2)).getD ["<function not found>"]

theorem ClientTransportMgr_getFullAddr_shape : lits "ClientTransportMgr.getFullAddr" =
  ["\"%s://%s\"", "op&&", "op==", "\"tcp\"", "op!=", "\"\"", "\"%s-%s\""] := by rw [lits, literals_find]; decide +kernel

theorem Message_GetClientTransaction_shape : lits "Message.GetClientTransaction" =
  ["op!=", "\"\"", "op!=", "\"\"", "\"%s %s\""] := by rw [lits, literals_find]; decide +kernel

end Expected.K12
