/- Obligations on regenerated typed facts (tie A): a source edit that changes the fact makes the theorem fail at `lake build`. -/
import Generated.Facts

namespace Expected
open Generated

/-! ### F5 (C08): inventory of partial operations

Every slice / index / non-constant make / division site of the modelled files with the conditions
that syntactically guard it. The list below is the reviewed inventory: sites are total by their guard
(`pos != -1` before `s[0:pos]`, `range`-bound indices, `len` checks), by construction (`strings.Split`
never returns an empty slice, so `tmp[len(tmp)-1]` and `t[0]` are in range), or are modelled as partial
(none is left on the current tree).
A new, removed or re-guarded site changes the regenerated list and fails this obligation. -/

def guardedSites : List Site := [
  { fn := "ByteArrayPool.Alloc", kind := "make", expr := "make([]byte, bp.arraySize)", guards := "n <= 0" },
  { fn := "ByteArrayPool.Alloc", kind := "index", expr := "bp.pool[n-1]", guards := "!(n <= 0)" },
  { fn := "ByteArrayPool.Alloc", kind := "slice", expr := "bp.pool[0 : n-1]", guards := "!(n <= 0)" },
  { fn := "CreateBranch", kind := "index", expr := "tmp[len(tmp)-1]", guards := "err == nil" },
  { fn := "CreateRoundRobinBackend", kind := "slice", expr := "u.Host[0:pos]", guards := "!(len(addresses) <= 0) && range addresses && !(err != nil) && u.Scheme == \"udp\" || u.Scheme == \"tcp\" && pos != -1" },
  { fn := "CreateRoundRobinBackend", kind := "slice", expr := "u.Host[pos+1:]", guards := "!(len(addresses) <= 0) && range addresses && !(err != nil) && u.Scheme == \"udp\" || u.Scheme == \"tcp\" && pos != -1" },
  { fn := "CreateTag", kind := "index", expr := "tmp[len(tmp)-1]", guards := "err == nil" },
  { fn := "FromSpec.SetTag", kind := "index", expr := "fs.params[i]", guards := "range fs.params && param.Key == \"tag\"" },
  { fn := "Message.AddRecordRoute", kind := "slice", expr := "m.headers[0:pos]", guards := "" },
  { fn := "Message.AddRecordRoute", kind := "slice", expr := "m.headers[pos:]", guards := "" },
  { fn := "Message.AddVia", kind := "slice", expr := "m.headers[0:pos]", guards := "" },
  { fn := "Message.AddVia", kind := "slice", expr := "m.headers[pos:]", guards := "" },
  { fn := "Message.RemoveHeader", kind := "slice", expr := "m.headers[0:index]", guards := "range m.headers && m.isSameHeader(header.name, name)" },
  { fn := "Message.RemoveHeader", kind := "slice", expr := "m.headers[index+1:]", guards := "range m.headers && m.isSameHeader(header.name, name)" },
  { fn := "MyName.matchSIPURI", kind := "slice", expr := "name[pos+1:]", guards := "range p.names && !(pos == -1)" },
  { fn := "MyName.matchSIPURI", kind := "slice", expr := "name[0:pos]", guards := "range p.names && !(pos == -1)" },
  { fn := "NewPreRouteItem", kind := "slice", expr := "nextHop[0:pos]", guards := "!(pos == -1)" },
  { fn := "NewPreRouteItem", kind := "slice", expr := "nextHop[pos+1:]", guards := "!(pos == -1)" },
  { fn := "ParseCSeq", kind := "index", expr := "fields[0]", guards := "len(fields) == 2" },
  { fn := "ParseCSeq", kind := "index", expr := "fields[1]", guards := "len(fields) == 2 && !(err != nil)" },
  { fn := "ParseFromSpec", kind := "slice", expr := "s[0 : raquot_pos+1]", guards := "raquot_pos != -1" },
  { fn := "ParseFromSpec", kind := "slice", expr := "s[raquot_pos+1:]", guards := "raquot_pos != -1 && !(err != nil)" },
  { fn := "ParseFromSpec", kind := "slice", expr := "s[raquot_pos+1+pos+1:]", guards := "raquot_pos != -1 && !(err != nil) && pos != -1" },
  { fn := "ParseFromSpec", kind := "slice", expr := "s[0:pos]", guards := "!(raquot_pos != -1) && !(pos == -1)" },
  { fn := "ParseFromSpec", kind := "slice", expr := "s[pos+1:]", guards := "!(raquot_pos != -1) && !(pos == -1) && !(err != nil)" },
  { fn := "ParseGenericParam", kind := "slice", expr := "s[0:pos]", guards := "!(len(s) <= 0) && !(pos == -1)" },
  { fn := "ParseGenericParam", kind := "slice", expr := "s[pos+1:]", guards := "!(len(s) <= 0) && !(pos == -1)" },
  { fn := "ParseMessage", kind := "slice", expr := "line[0:pos]", guards := "!(err != nil) && !(len(bLine) == 0) && !(firstLine) && !(pos == -1)" },
  { fn := "ParseMessage", kind := "slice", expr := "line[pos+1:]", guards := "!(err != nil) && !(len(bLine) == 0) && !(firstLine) && !(pos == -1)" },
  { fn := "ParseNameAddr", kind := "slice", expr := "nameAddr[pos1+1 : pos2]", guards := "!(pos1 == -1 || pos2 == -1 || pos2 < pos1)" },
  { fn := "ParseNameAddr", kind := "slice", expr := "nameAddr[0:pos1]", guards := "!(pos1 == -1 || pos2 == -1 || pos2 < pos1) && !(err != nil)" },
  { fn := "ParseRecRoute", kind := "slice", expr := "s[0 : pos+1]", guards := "!(pos == -1)" },
  { fn := "ParseRecRoute", kind := "slice", expr := "s[pos+1:]", guards := "!(pos == -1) && !(err != nil)" },
  { fn := "ParseRecRoute", kind := "index", expr := "s[0]", guards := "!(pos == -1) && !(err != nil) && !(len(s) <= 0)" },
  { fn := "ParseRecRoute", kind := "slice", expr := "s[1:]", guards := "!(pos == -1) && !(err != nil) && !(len(s) <= 0) && !(s[0] != ';')" },
  { fn := "ParseSipURI", kind := "slice", expr := "uri[4:]", guards := "strings.HasPrefix(uri, \"sip:\")" },
  { fn := "ParseSipURI", kind := "slice", expr := "uri[5:]", guards := "!(strings.HasPrefix(uri, \"sip:\")) && strings.HasPrefix(uri, \"sips:\")" },
  { fn := "ParseSipURI", kind := "slice", expr := "s[pos+1:]", guards := "pos != -1" },
  { fn := "ParseSipURI", kind := "slice", expr := "s[0:pos]", guards := "pos != -1" },
  { fn := "ParseSipURI", kind := "slice", expr := "s[pos+1:]", guards := "pos != -1" },
  { fn := "ParseSipURI", kind := "slice", expr := "s[0:pos]", guards := "pos != -1" },
  { fn := "ParseSipURI", kind := "slice", expr := "s[0:pos]", guards := "pos != -1" },
  { fn := "ParseSipURI", kind := "slice", expr := "s[pos+1:]", guards := "pos != -1" },
  { fn := "ParseTo", kind := "slice", expr := "s[0 : raquot_pos+1]", guards := "raquot_pos != -1" },
  { fn := "ParseTo", kind := "slice", expr := "s[raquot_pos+1:]", guards := "raquot_pos != -1 && !(err != nil)" },
  { fn := "ParseTo", kind := "slice", expr := "s[raquot_pos+1+pos+1:]", guards := "raquot_pos != -1 && !(err != nil) && pos != -1" },
  { fn := "ParseTo", kind := "slice", expr := "s[0:pos]", guards := "!(raquot_pos != -1) && !(pos == -1)" },
  { fn := "ParseTo", kind := "slice", expr := "s[pos+1:]", guards := "!(raquot_pos != -1) && !(pos == -1) && !(err != nil)" },
  { fn := "PreConfigHostResolver.GetIp", kind := "index", expr := "ips[0]", guards := "!(net.ParseIP(name) != nil) && !(ok) && err == nil && len(ips) > 0" },
  { fn := "Proxy.findTransportByBackendAddr", kind := "index", expr := "proxyItem.transports[0]", guards := "ok && !(proxyItem == nil)" },
  { fn := "Proxy.handleRawMessage", kind := "slice", expr := "host[1 : len(host)-1]", guards := "msg.IsRequest() && rawMessage.TcpConn != nil && len(host) >= 2 && strings.HasPrefix(host, \"[\") && strings.HasSuffix(host, \"]\")" },
  { fn := "Proxy.sendToBackend", kind := "index", expr := "backendItem.transports[0]", guards := "!(backendItem == nil) && err != nil" },
  { fn := "Proxy.sendToBackend", kind := "index", expr := "backendItem.transports[0]", guards := "!(backendItem == nil) && transport == nil" },
  { fn := "RecRoute.GetParam", kind := "index", expr := "r.rrParam[index]", guards := "!(index < 0 || index >= len(r.rrParam))" },
  { fn := "RecordRoute.GetRecRoute", kind := "index", expr := "r.recRoute[index]", guards := "!(index < 0 || index >= len(r.recRoute))" },
  { fn := "RoundRobinBackend.RemoveBackend", kind := "slice", expr := "rb.backends[0:index]", guards := "ok && range rb.backends && address == p.GetAddress()" },
  { fn := "RoundRobinBackend.RemoveBackend", kind := "slice", expr := "rb.backends[index+1:]", guards := "ok && range rb.backends && address == p.GetAddress()" },
  { fn := "RoundRobinBackend.getBackend", kind := "index", expr := "rb.backends[index%n]", guards := "!(n <= 0)" },
  { fn := "RoundRobinBackend.getBackend", kind := "div", expr := "index % n", guards := "!(n <= 0)" },
  { fn := "RoundRobinBackend.getNextBackendIndex", kind := "div", expr := "(rb.index + 1) % n", guards := "!(n <= 0)" },
  { fn := "Route.GetRouteParam", kind := "index", expr := "r.routeParams[index]", guards := "!(index < 0 || index >= len(r.routeParams))" },
  { fn := "Route.PopRouteParam", kind := "index", expr := "r.routeParams[0]", guards := "len(r.routeParams) > 0" },
  { fn := "Route.PopRouteParam", kind := "slice", expr := "r.routeParams[1:]", guards := "len(r.routeParams) > 0" },
  { fn := "SIPURI.SetParameter", kind := "index", expr := "s.Parameters[i]", guards := "range s.Parameters && param.Key == name" },
  { fn := "To.AddParam", kind := "index", expr := "t.params[i]", guards := "range t.params && param.Key == name" },
  { fn := "UDPServerTransport.startParseMessage", kind := "slice", expr := "sized_byte_array.b[:sized_byte_array.n]", guards := "" },
  { fn := "Via.GetParam", kind := "index", expr := "v.params[index]", guards := "!(index < 0 || index >= len(v.params))" },
  { fn := "Via.PopViaParam", kind := "index", expr := "v.params[0]", guards := "!(len(v.params) <= 0)" },
  { fn := "Via.PopViaParam", kind := "slice", expr := "v.params[1:]", guards := "!(len(v.params) <= 0)" },
  { fn := "ViaParam.SetParam", kind := "index", expr := "vp.Params[key]", guards := "range vp.Params && param.Key == name" },
  { fn := "isIPAddress", kind := "slice", expr := "addr[1 : len(addr)-1]", guards := "strings.HasPrefix(addr, \"[\") && strings.HasSuffix(addr, \"]\")" },
  { fn := "parseHostPort", kind := "slice", expr := "s[0:pos]", guards := "!(pos == -1)" },
  { fn := "parseHostPort", kind := "slice", expr := "s[pos+1:]", guards := "!(pos == -1)" },
  { fn := "parseRequestLine", kind := "index", expr := "fields[1]", guards := "len(fields) == 3" },
  { fn := "parseRequestLine", kind := "index", expr := "fields[0]", guards := "len(fields) == 3 && !(err != nil)" },
  { fn := "parseRequestLine", kind := "index", expr := "fields[2]", guards := "len(fields) == 3 && !(err != nil)" },
  { fn := "parseRouteParam", kind := "slice", expr := "s[0 : pos+1]", guards := "!(pos == -1)" },
  { fn := "parseRouteParam", kind := "slice", expr := "s[pos+1:]", guards := "!(pos == -1) && !(err != nil)" },
  { fn := "parseRouteParam", kind := "index", expr := "s[0]", guards := "!(pos == -1) && !(err != nil) && !(len(s) <= 0)" },
  { fn := "parseRouteParam", kind := "slice", expr := "s[1:]", guards := "!(pos == -1) && !(err != nil) && !(len(s) <= 0) && !(s[0] != ';')" },
  { fn := "parseStatusLine", kind := "index", expr := "fields[1]", guards := "len(fields) >= 2" },
  { fn := "parseStatusLine", kind := "index", expr := "fields[0]", guards := "len(fields) >= 2 && !(err != nil)" },
  { fn := "parseStatusLine", kind := "slice", expr := "fields[2:]", guards := "len(fields) >= 2 && !(err != nil)" },
  { fn := "parseUriHeader", kind := "slice", expr := "param[0:pos]", guards := "range strings.Split(s, \"&\") && !(pos == -1)" },
  { fn := "parseUriHeader", kind := "slice", expr := "param[pos+1:]", guards := "range strings.Split(s, \"&\") && !(pos == -1)" },
  { fn := "parseUriParameters", kind := "slice", expr := "param[0:pos]", guards := "range strings.Split(s, \";\") && !(pos == -1)" },
  { fn := "parseUriParameters", kind := "slice", expr := "param[pos+1:]", guards := "range strings.Split(s, \";\") && !(pos == -1)" },
  { fn := "parseUserInfo", kind := "slice", expr := "s[0:pos]", guards := "!(pos == -1)" },
  { fn := "parseUserInfo", kind := "slice", expr := "s[pos+1:]", guards := "!(pos == -1)" },
  { fn := "parseViaParam", kind := "index", expr := "t[0]", guards := "" },
  { fn := "parseViaParam", kind := "index", expr := "sentInfo[0]", guards := "!(len(sentInfo) != 2)" },
  { fn := "parseViaParam", kind := "index", expr := "sentInfo[1]", guards := "!(len(sentInfo) != 2) && !(len(sentProtocol) != 3)" },
  { fn := "parseViaParam", kind := "index", expr := "sentProtocol[0]", guards := "!(len(sentInfo) != 2) && !(len(sentProtocol) != 3) && !(len(sentBy) > 2)" },
  { fn := "parseViaParam", kind := "index", expr := "sentProtocol[1]", guards := "!(len(sentInfo) != 2) && !(len(sentProtocol) != 3) && !(len(sentBy) > 2)" },
  { fn := "parseViaParam", kind := "index", expr := "sentProtocol[2]", guards := "!(len(sentInfo) != 2) && !(len(sentProtocol) != 3) && !(len(sentBy) > 2)" },
  { fn := "parseViaParam", kind := "index", expr := "sentBy[0]", guards := "!(len(sentInfo) != 2) && !(len(sentProtocol) != 3) && !(len(sentBy) > 2)" },
  { fn := "parseViaParam", kind := "index", expr := "sentBy[1]", guards := "!(len(sentInfo) != 2) && !(len(sentProtocol) != 3) && !(len(sentBy) > 2) && len(sentBy) == 2" },
  { fn := "parseViaParam", kind := "slice", expr := "param[0:pos]", guards := "!(len(sentInfo) != 2) && !(len(sentProtocol) != 3) && !(len(sentBy) > 2) && range t && i != 0 && !(pos == -1)" },
  { fn := "parseViaParam", kind := "slice", expr := "param[pos+1:]", guards := "!(len(sentInfo) != 2) && !(len(sentProtocol) != 3) && !(len(sentBy) > 2) && range t && i != 0 && !(pos == -1)" }
]

theorem inventory_covered : partialOps = guardedSites := rfl

end Expected
