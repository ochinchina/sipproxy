/-
Expected.Globals — obligation on the regenerated fact F9 (tie A): the process-wide state of the program.

The model treats decoding and encoding as functions of the text, and one step of the pipeline as a function of
the message and of the state reachable from the Proxy object. That is sound only while nothing else outlives a
message: the program's package-level variables are two constant tables, the compact-name table built once at
start-up, and the name resolver. A new package-level variable (a cache of decoded values, an interning table,
a counter) makes behaviour depend on history in a way the model does not know; it breaks this obligation before
any input is run.
-/
import Generated.Facts

namespace Expected

theorem globals_known : Generated.globals =
    [("SupportedProtocol", "map[string]string"), ("compactHdrNames", "*compactHeaderNames"),
     ("dynamicHostResolver", "*DynamicHostResolver"), ("finalResponseStatusCodes", "map[int]bool")] := rfl

end Expected
