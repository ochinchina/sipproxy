/-
Expected.Lits - looking a function up in the regenerated fact F3 (`Generated.literals`) by halving.
The table has a row for every function of the source; `find?` by name decodes every name in front of
the one sought, and decoding a string literal is what costs the kernel here. The rows are sorted by
name, so nine halvings find the row. The obligations themselves are in Expected/K*.lean.
-/
import Generated.Consts

namespace Expected

/-- the bytes of a name: what `String.decEq` compares -/
def key (s : String) : List UInt8 := s.toByteArray.data.toList

def sortedKeys : List (List UInt8) → Bool
  | a :: b :: l => decide (a < b) && sortedKeys (b :: l)
  | _ => true

theorem pairwise_of_sortedKeys : ∀ {l : List (List UInt8)}, sortedKeys l = true → l.Pairwise (· < ·)
  | [], _ => .nil
  | [_], _ => .cons (fun _ h => nomatch h) .nil
  | a :: b :: l, h => by
    simp only [sortedKeys, Bool.and_eq_true, decide_eq_true_eq] at h
    have ih := pairwise_of_sortedKeys h.2
    refine .cons (fun c hc => ?_) ih
    rcases List.mem_cons.mp hc with rfl | hc
    · exact h.1
    · exact List.lt_trans h.1 (List.rel_of_pairwise_cons ih hc)

/-- `find?` by name in a table sorted by `key`. The first argument is fuel: it bounds the number of
halvings, what is left is searched row by row, so the result is that of `find?` whatever the fuel
(`bfind_eq`). -/
def bfind {β : Type} (fn : String) : Nat → List (String × β) → Option (String × β)
  | 0, l => l.find? (·.1 == fn)
  | n + 1, l =>
    match l.drop (l.length / 2) with
    | [] => l.find? (·.1 == fn)
    | e :: r => if key fn < key e.1 then bfind fn n (l.take (l.length / 2)) else bfind fn n (e :: r)

theorem bfind_eq {β : Type} (fn : String) : ∀ (n : Nat) (l : List (String × β)),
    l.Pairwise (fun a b => key a.1 < key b.1) → bfind fn n l = l.find? (·.1 == fn)
  | 0, _, _ => rfl
  | n + 1, l, h => by
    unfold bfind
    split
    · rfl
    · rename_i e r he
      -- `l` is its first half followed by `e :: r`; the half that cannot hold `fn` contributes `none`
      have hl : l = l.take (l.length / 2) ++ e :: r := by rw [← he, List.take_append_drop]
      rw [hl] at h
      obtain ⟨h1, h2, h3⟩ := List.pairwise_append.mp h
      have none_of {t : List (String × β)} (ht : ∀ a ∈ t, a.1 ≠ fn) : t.find? (·.1 == fn) = none :=
        List.find?_eq_none.mpr fun a ha => by simpa using ht a ha
      split
      · rename_i hlt
        rw [bfind_eq fn n _ h1]
        conv => rhs; rw [hl, List.find?_append]
        rw [none_of (t := e :: r), Option.or_none]
        intro b hb eq
        rcases List.mem_cons.mp hb with rfl | hb
        · exact List.lt_irrefl _ (eq ▸ hlt)
        · exact List.lt_asymm hlt (eq ▸ List.rel_of_pairwise_cons h2 hb)
      · rename_i hge
        rw [bfind_eq fn n _ h2]
        conv => rhs; rw [hl, List.find?_append]
        rw [none_of (t := l.take (l.length / 2)), Option.none_or]
        intro a ha eq
        exact hge (eq ▸ h3 a ha e (List.mem_cons_self ..))

/-- The rows of F3 are sorted by name: the extractor sorts the function names before it prints the
table (/verif/extract/main.go, `sort.Strings`, the byte order compared here). Should it ever stop doing
so, this theorem fails and with it every module of Expected/K*.lean, all of which import it: a broken
tie, never a quiet pass. -/
theorem literals_sorted : Generated.literals.Pairwise (fun a b => key a.1 < key b.1) :=
  List.pairwise_map.mp (pairwise_of_sortedKeys (l := Generated.literals.map (key ·.1)) (by decide +kernel))

theorem literals_find (fn : String) :
    Generated.literals.find? (·.1 == fn) = bfind fn 9 Generated.literals :=
  (bfind_eq fn 9 _ literals_sorted).symm

end Expected
