/-
Expected.K15 - C15: lifetime arithmetic of a pin. Obligations on the regenerated fact F3 (tie A): the literals and the
comparison / arithmetic operators of these functions, in source order, are the ones the model was written from
(a changed constant, format string or comparison breaks the obligation before any input is run).
-/
import Expected.Lits

namespace Expected.K15

def lits (fn : String) : List String := ((Generated.literals.find? (fun e => e.1 == fn)).map (fun e => e.2)).getD ["<function not found>"]

theorem DialogBasedBackend_AddBackend_shape : lits "DialogBasedBackend.AddBackend" =
  ["op>", "op*"] := by rw [lits, literals_find]; decide +kernel

/-- the default: DEFAULT_DIALOG_TIMEOUT, 1200 when it is not set, 1200 when it is not a number (Side.Config.defaultDialogTimeout) -/
theorem getDefaultDialogTimeout_shape : lits "getDefaultDialogTimeout" =
  ["\"DEFAULT_DIALOG_TIMEOUT\"", "op!", "1200", "op==", "1200"] := by rw [lits, literals_find]; decide +kernel

/-- startProxy applies the default only to a service without a positive dialogTimeout of its own (`<= 0` comes first) -/
theorem startProxy_shape : lits "startProxy" =
  ["op<=", "0", "0", "op!", "op!", "op!=", "0", "op==", "1", "op>", "0", "\"failed to start %d proxies\""] := by rw [lits, literals_find]; decide +kernel

end Expected.K15
