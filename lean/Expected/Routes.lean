/- Obligations on regenerated typed facts (tie A): a source edit that changes the fact makes the theorem fail at `lake build`. -/
import Generated.Facts

namespace Expected
open Generated

/-! ### F7 (C18): the static-route lookup does not iterate over a map -/

theorem findRoute_no_map_range : (mapRanges.filter (fun r => r.1 == "PreConfigRoute.FindRoute")) = [] := by decide +kernel

/-- the remaining map iterations are the ones the model treats as order-independent (set deletions,
snapshots) -/
theorem mapRanges_known : mapRanges.map (·.1) =
    ["ClientTransportMgr.cleanExpiredTransport", "DialogBasedBackend.cleanExpiredDialog", "DialogBasedBackend.cleanExpiredDialog",
     "DynamicHostResolver.getHostnames", "RoundRobinBackend.AddBackendChangeListener", "RoundRobinBackend.GetAllBackend"] := rfl

end Expected
