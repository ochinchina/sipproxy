/- Obligations on regenerated typed facts (tie A): a source edit that changes the fact makes the theorem fail at `lake build`. -/
import Generated.Facts

namespace Expected
open Generated

/-! ### F6 (C09): lock discipline of the access table

Every WRITE outside a constructor is (a) to a value that belongs to one message / one parse and is
never shared between goroutines, or (b) to state owned by one proxy loop goroutine, or (c) made by a
function that only runs during start-up (before the goroutines that read the field exist), or
(d) made with the structure's guarding mutex held. Every READ of a mutex-guarded structure holds that
mutex unless the field never changes after construction (or is accessed atomically). -/

/-- values private to one message / one decoding (never shared) -/
def messageConfined : List String :=
  ["AddrSpec", "AbsoluteURI", "CSeq", "Dialog", "FromSpec", "Header", "KeyValue", "Message", "NameAddr", "RawMessage", "RecRoute",
   "RecordRoute", "RequestLine", "Route", "RouteParam", "SIPURI", "StatusLine", "To", "Via", "ViaParam", "SizedByteArray"]

/-- state owned by exactly one proxy message-loop goroutine (reached only from receiveAndProcessMessage) -/
def loopOwned : List String :=
  ["DialogBasedBackend", "ExpireBackend", "FailOverClientTransport", "TCPClientTransport", "UDPClientTransport", "BackendWithParent"]

/-- (structure, function): functions that run only during start-up / configuration loading -/
def startupOnly : List (String × String) :=
  [("PreConfigHostResolver", "PreConfigHostResolver.AddHostIP"), ("PreConfigRoute", "PreConfigRoute.AddRouteItem"),
   ("Proxy", "Proxy.AddItem"), ("compactHeaderNames", "compactHeaderNames.AddCompact"),
   ("TCPServerTransport", "TCPServerTransport.Start"), ("UDPServerTransport", "UDPServerTransport.Start"),
   ("MyName", "NewMyName")]

/-- (structure, field): fields of the proxy owned by its loop goroutine -/
def loopOwnedFields : List (String × String) := [("Proxy", "backends")]

def guardOf (s : String) : String := if s == "AddressWithCallback" then "DynamicHostResolver" else s

def guarded : List String := lockTypes ++ ["AddressWithCallback"]

/-- (structure, field): never written after construction, or only accessed through sync/atomic -/
def immutableOrAtomic : List (String × String) :=
  [("DynamicHostResolver", "stop"), ("DynamicHostResolver", "interval"), ("ProxyItem", "backend"), ("ProxyItem", "msgHandler"),
   ("ProxyItem", "dests"), ("ProxyItem", "defRoute"), ("RoundRobinBackend", "backendChangeListenerMgr"),
   ("TCPBackend", "backendAddr"), ("TCPBackend", "localAddr"), ("TCPBackend", "connectionEstablished"),
   ("ByteArrayPool", "maxCap"), ("ByteArrayPool", "arraySize"), ("ClientTransportMgr", "connectionEstablished")]

/-- (structure, field, function): reads of ProxyItem.transports by the proxy's own loop; the only writer
(ProxyItem.connectionEstablished) is invoked from TCPBackend.connect on that same loop goroutine. -/
def sameGoroutineReads : List (String × String × String) :=
  [("ProxyItem", "transports", "Proxy.sendToBackend"), ("ProxyItem", "transports", "Proxy.findTransportByBackendAddr"),
   ("ProxyItem", "transports", "ProxyItem.start")]

def writeOk (a : Access) : Bool :=
  a.ctor || messageConfined.contains a.strct || loopOwned.contains a.strct || startupOnly.contains (a.strct, a.fn) ||
  loopOwnedFields.contains (a.strct, a.field) || immutableOrAtomic.contains (a.strct, a.field) ||
  (guarded.contains a.strct && a.locks.contains (guardOf a.strct))

def readOk (a : Access) : Bool :=
  a.ctor || !guarded.contains a.strct || immutableOrAtomic.contains (a.strct, a.field) ||
  sameGoroutineReads.contains (a.strct, a.field, a.fn) || a.locks.contains (guardOf a.strct)

def rowOk (a : Access) : Bool := if a.write then writeOk a else readOk a

/-- C09: the current source satisfies the discipline. -/
theorem repo_disciplined : accessTable.all rowOk = true := by decide +kernel

/-- the lock-carrying structures are the ones the discipline was written for -/
theorem lockTypes_known : lockTypes =
    ["BackendChangeListenerMgr", "ByteArrayPool", "ClientTransportMgr", "DynamicHostResolver", "ProxyItem", "RoundRobinBackend",
     "SelfLearnRoute", "TCPBackend"] := rfl

end Expected
