/-
Expected.K06 - C06: magic cookie of the branch. Obligations on the regenerated fact F3 (tie A): the literals and the
comparison / arithmetic operators of these functions, in source order, are the ones the model was written from
(a changed constant, format string or comparison breaks the obligation before any input is run).
-/
import Expected.Lits

namespace Expected.K06

def lits (fn : String) : List String := ((Generated.literals.find? (fun e => e.1 == fn)).map (fun e => e.2)).getD ["<function not found>"]

theorem CreateBranch_shape : lits "CreateBranch" =
  ["op==", "\"-\"", "op+", "\"z9hG4bK\"", "op-", "1", "\"\""] := by rw [lits, literals_find]; decide +kernel

end Expected.K06
