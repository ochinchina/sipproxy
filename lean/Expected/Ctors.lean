/- Obligations on regenerated typed facts (tie A): a source edit that changes the fact makes the theorem fail at `lake build`. -/
import Generated.Facts

namespace Expected
open Generated

/-! ### F4b (C07): constructors store received-support and the packet's source where the pipeline reads them -/

def ctorField (c t f : String) : List String :=
  (ctorFields.filter (fun r => r.1 == c && r.2.1 == t && r.2.2.1 == f)).map (·.2.2.2)

theorem receivedSupport_stored_by_constructors :
    ctorField "NewUDPServerTransport" "UDPServerTransport" "receivedSupport" = ["receivedSupport"] ∧
    ctorField "NewTCPServerTransport" "TCPServerTransport" "receivedSupport" = ["receivedSupport"] ∧
    ctorField "NewTCPServerTransportWithConn" "TCPServerTransport" "receivedSupport" = ["receivedSupport"] ∧
    ctorField "NewRawMessage" "RawMessage" "ReceivedSupport" = ["receivedSupport"] ∧
    ctorField "NewRawMessage" "RawMessage" "PeerAddr" = ["peerAddr"] ∧
    ctorField "NewRawMessage" "RawMessage" "PeerPort" = ["peerPort"] ∧
    ctorField "NewRawMessage" "RawMessage" "From" = ["from"] := by decide +kernel

end Expected
