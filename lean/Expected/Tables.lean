/-
Expected.Tables — obligations on the regenerated tables F1/F2 (tie A). If a source edit changes a
table, these are re-checked by the kernel; failure = the fact theorems rely on no longer holds.
-/
import Generated.Tables
import Sip.Message
open GoStd Sip

namespace Expected

/-- F2: exactly the classes 2xx-6xx are final. -/
theorem finalClasses_ok : Generated.finalClasses = [2, 3, 4, 5, 6] := rfl

/-- F2: exactly udp and tcp are supported client transports. -/
theorem supportedProtocols_ok : Generated.supportedProtocolsStr = ["udp", "tcp"] := rfl

/-- F1: the compact-name table is the RFC 3261 / RFC 3515 / RFC 3841 / RFC 6665 set the model was written for. -/
theorem compactTable_ok : Generated.compactTableStr =
  [("Accept-Contact", "a"), ("Referred-By", "b"), ("Content-Type", "c"), ("Content-Encoding", "e"),
   ("From", "f"), ("Call-ID", "i"), ("Supported", "k"), ("Content-Length", "l"), ("Contact", "m"),
   ("Event", "o"), ("Refer-To", "r"), ("Subject", "s"), ("To", "t"), ("Allow-Events", "u"), ("Via", "v")] := rfl

end Expected
