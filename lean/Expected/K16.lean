/-
Expected.K16 - C16: dialog identifier format. Obligations on the regenerated fact F3 (tie A): the literals and the
comparison / arithmetic operators of these functions, in source order, are the ones the model was written from
(a changed constant, format string or comparison breaks the obligation before any input is run).
-/
import Expected.Lits

namespace Expected.K16

def lits (fn : String) : List String := ((Generated.literals.find? (fun e => e.1 == fn)).map (fun e => e.2)).getD ["<function not found>"]

theorem Dialog_String_shape : lits "Dialog.String" =
  ["\"%s %s %s\""] := by rw [lits, literals_find]; decide +kernel

theorem Message_GetDialog_shape : lits "Message.GetDialog" =
  ["op!=", "\"\"", "op!=", "\"\"", "op!=", "\"\"", "op!=", "\"\"", "op!=", "\"\"", "op!=", "\"\"", "op!=", "\"\"", "op!=", "\"\"", "op!=", "\"\"", "op||", "op<", "op&&", "op==", "op<", "\"%s %s\"", "\"%s %s\"", "\"%s %s\"", "\"%s %s\""] := by rw [lits, literals_find]; decide +kernel

end Expected.K16
