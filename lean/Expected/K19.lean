/-
Expected.K19 - C19: failure tolerance of the resolver. Obligations on the regenerated fact F3 (tie A): the literals and the
comparison / arithmetic operators of these functions, in source order, are the ones the model was written from
(a changed constant, format string or comparison breaks the obligation before any input is run).
-/
import Expected.Lits

namespace Expected.K19

def lits (fn : String) : List String := ((Generated.literals.find? (fun e => e.1 == fn)).map (fun e => e.2)).getD ["<function not found>"]

theorem DynamicHostResolver_addressResolved_shape : lits "DynamicHostResolver.addressResolved" =
  ["op!=", "1", "op&&", "op>", "3", "op>", "0", "0", "0", "0", "op||", "op>", "0", "op>", "0"] := by rw [lits, literals_find]; decide +kernel

end Expected.K19
