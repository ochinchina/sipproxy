/-
Expected.K20 - C20: retry bounds of the send loops. Obligations on the regenerated fact F3 (tie A): the literals and the
comparison / arithmetic operators of these functions, in source order, are the ones the model was written from
(a changed constant, format string or comparison breaks the obligation before any input is run).
-/
import Expected.Lits

namespace Expected.K20

def lits (fn : String) : List String := ((Generated.literals.find? (fun e => e.1 == fn)).map (fun e => e.2)).getD ["<function not found>"]

theorem TCPClientTransport_Send_shape : lits "TCPClientTransport.Send" =
  ["op!=", "0", "op<", "2", "op&&", "op==", "\"tcp\"", "\"0\"", "\"tcp\"", "\"tcp\"", "op!=", "op!=", "op==", "op==", "\"fail to send message to %s\""] := by rw [lits, literals_find]; decide +kernel

theorem TCPBackend_Send_shape : lits "TCPBackend.Send" =
  ["op!=", "0", "op<", "2", "op==", "op==", "op==", "\"fail to send message to backend %s\""] := by rw [lits, literals_find]; decide +kernel

theorem FailOverClientTransport_Send_shape : lits "FailOverClientTransport.Send" =
  ["op!=", "op==", "op!=", "\"fail to send message\""] := by rw [lits, literals_find]; decide +kernel

end Expected.K20
