/-
Expected.Wiring — obligations on the regenerated call-site wiring F4 and on the sibling fact
"header names are never compared with == / !=" (tie A).
-/
import Generated.Wiring

namespace Expected

def argOf (w : Generated.Wire) (param : String) : Option String :=
  (w.args.find? (fun a => a.1 == param)).map (·.2)

def callsOf (caller callee : String) : List Generated.Wire :=
  Generated.wiring.filter (fun w => w.caller == caller && w.callee == callee)

/-- F4 / C07: `no-received` reaches every listener constructor negated, in the receivedSupport
position: startProxy passes `!listen.NoReceived` as `receivedSupport` to NewProxy and NewProxyItem. -/
theorem receivedSupport_wired_from_config :
    (callsOf "startProxy" "NewProxy").map (argOf · "receivedSupport") = [some "!listen.NoReceived"] ∧
    (callsOf "startProxy" "NewProxyItem").map (argOf · "receivedSupport") = [some "!listen.NoReceived"] := by
  decide +kernel

/-- … and from there, unchanged, to every server transport and to every RawMessage. -/
theorem receivedSupport_wired_to_transports :
    (callsOf "NewProxyItem" "NewUDPServerTransport").map (argOf · "receivedSupport") = [some "receivedSupport"] ∧
    (callsOf "NewProxyItem" "NewTCPServerTransport").map (argOf · "receivedSupport") = [some "receivedSupport"] ∧
    (callsOf "NewProxy" "NewTCPServerTransportWithConn").map (argOf · "receivedSupport") = [some "receivedSupport"] ∧
    (callsOf "ProxyItem.connectionEstablished" "NewTCPServerTransportWithConn").map (argOf · "receivedSupport") = [some "receivedSupport"] ∧
    (callsOf "UDPServerTransport.receiveMessage" "NewRawMessage").map (argOf · "receivedSupport") = [some "u.receivedSupport"] ∧
    (callsOf "TCPServerTransport.receiveMessage" "NewRawMessage").map (argOf · "receivedSupport") = [some "t.receivedSupport"] ∧
    (callsOf "UDPServerTransport.receiveMessage" "NewRawMessage").map (argOf · "peerAddr") = [some "address"] ∧
    (callsOf "UDPServerTransport.receiveMessage" "NewRawMessage").map (argOf · "peerPort") = [some "port"] ∧
    (callsOf "TCPServerTransport.receiveMessage" "NewRawMessage").map (argOf · "peerAddr") = [some "peerAddr"] ∧
    (callsOf "TCPServerTransport.receiveMessage" "NewRawMessage").map (argOf · "peerPort") = [some "peerPort"] := by
  decide +kernel

/-- F4 / C09: the self-learned route table is allocated once per service (outside the listener loop)
and every Proxy / ProxyItem of the service receives that same object. -/
theorem selfLearnRoute_shared_per_service :
    (callsOf "startProxy" "NewSelfLearnRoute").map (·.inLoop) = [false] ∧
    (callsOf "startProxy" "NewProxy").map (fun w => (w.inLoop, argOf w "selfLearnRoute")) = [(true, some "selfLearnRoute")] ∧
    (callsOf "startProxy" "NewProxyItem").map (fun w => (w.inLoop, argOf w "selfLearnRoute")) = [(true, some "selfLearnRoute")] := by
  decide +kernel

/-- F4 / C15: the configured dialog timeout reaches the pin table. -/
theorem dialogTimeout_wired :
    (callsOf "startProxy" "NewProxy").map (argOf · "dialogExpire") = [some "int64(dialogTimeout)"] ∧
    (callsOf "NewProxy" "NewDialogBasedBackend").map (argOf · "timeoutSeconds") = [some "dialogExpire"] := by
  decide +kernel

/-- sibling of F5 / C17: no header name is compared with == or != anywhere (all comparisons go
through isSameHeader). -/
theorem no_raw_header_name_comparison : Generated.nameComparisons = [] := rfl

end Expected
