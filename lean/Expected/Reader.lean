/- Obligations on regenerated typed facts (tie A): a source edit that changes the fact makes the theorem fail at `lake build`. -/
import Generated.Facts

namespace Expected
open Generated

/-! ### F8 (C10, C11): views into reader / pool buffers -/

/-- C11: readLine copies the first fragment before it calls ReadLine again (Reader.joinFragments true). -/
theorem readLine_copies_first_fragment : readLineCopiesFirstFragment = true := rfl

/-- C11 / C08 / C10: the reading layer of message.go uses its `bufio.Reader` through exactly the operations that
`Reader/Bufio.lean` models (`ReadLine` twice in `readLine` - first fragment and continuation loop -, `ReadByte` /
`UnreadByte` in `skipWhiteSpace`, and `ParseMessage` hands the reader to `skipWhiteSpace`, `readLine` and
`io.CopyN`, in this order). A rewrite with `ReadBytes`, `ReadString`, `Peek` / `Discard`, `ReadFull` ... changes
the list: the refinement theorems of `Lemmas/Bufio.lean` would then be about operations the code no longer uses. -/
theorem reader_operations_as_modelled : readerCalls =
    [("readLine", ["reader.ReadLine", "reader.ReadLine"]),
     ("skipWhiteSpace", ["reader.ReadByte", "reader.UnreadByte"]),
     ("ParseMessage", ["skipWhiteSpace(reader)", "readLine(reader)", "io.CopyN(reader)"])] := rfl

/-- C10: the UDP parse loop builds its reader over the first n bytes of the pooled buffer only … -/
theorem udp_reader_over_datagram : udpReaderOver = "sized_byte_array.b[:sized_byte_array.n]" := rfl

/-- … and parses, frees the buffer exactly once, then hands the message on, in this order. -/
theorem udp_parse_loop_shape : udpParseLoop =
    ["sized_byte_array := <-u.msgParseChannel",
     "reader := bufio.NewReaderSize(bytes.NewBuffer(sized_byte_array.b[:sized_byte_array.n]), sized_byte_array.n)",
     "msg, err := ParseMessage(reader)", "u.msgBufPool.Free(sized_byte_array.b)", "if err == nil {…}"] := rfl

end Expected
