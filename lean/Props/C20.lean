/-
C20 — Sending survives connection faults without loss or duplication.

"Sending towards a peer survives connection faults: if the connection cached for a destination
fails on write, the same send falls back to a fresh connection to that destination and the
message is written there exactly once; a send reports success only if the whole message was
written on some connection, and a destination that refuses connections yields an error rather
than a hang or crash. Later messages go straight to the working path."

Model: Side.Failover (transport.go FailOverClientTransport.Send, TCPClientTransport.Send;
backend.go TCPBackend.Send) over ARBITRARY fault oracles (`World`: per-connection write outcomes,
dial outcomes). "Written" = Write returned nil (delivery afterwards is TCP's business: partial).
Termination ("no hang") is Lean's structural recursion on the retry bound.
-/
import Side.Failover
open Side.FO

namespace Props.C20

/-- what one send appends to the log: failed writes on the connections `cs`, then, iff it succeeds, one
successful write on `r` -/
def attempts (m : MsgId) (cs : List ConnId) (r : Option ConnId) : List LogEntry :=
  cs.map (⟨·, m, false⟩) ++ r.toList.map (⟨·, m, true⟩)

theorem completed_attempts (m : MsgId) (cs : List ConnId) (r : Option ConnId) :
    completed (attempts m cs r) m = r.toList.map (⟨·, m, true⟩) := by
  -- the filter passes the rows with `ok := true`: none of the first list, all of the second
  simp only [completed, attempts, List.filter_append, List.filter_map, Function.comp_def, beq_self_eq_true, Bool.true_and]
  rw [List.filter_eq_nil_iff.mpr fun _ _ => Bool.false_ne_true, List.filter_eq_self.mpr fun _ _ => rfl]
  rfl

theorem attempts_cons (m : MsgId) (c : ConnId) (cs : List ConnId) (r : Option ConnId) (log : List LogEntry) :
    log ++ [⟨c, m, false⟩] ++ attempts m cs r = log ++ attempts m (c :: cs) r := by
  simp [attempts]

theorem clientLoop_log (fuel : Nat) (w : World) (t : TcpClient) (m : MsgId) (log : List LogEntry) :
    ∃ cs r, (tcpClientSendLoop fuel w t m log).2.2.2 = log ++ attempts m cs r ∧
      (tcpClientSendLoop fuel w t m log).2.2.1 = r.isSome ∧
      ∀ c, r = some c → (tcpClientSendLoop fuel w t m log).2.1.conn = some c := by
  induction fuel generalizing w t log with
  | zero => exact ⟨[], none, by simp [tcpClientSendLoop, attempts], rfl, by simp⟩
  | succ fuel ih =>
    unfold tcpClientSendLoop
    split
    · exact ⟨[], none, by simp [attempts], rfl, by simp⟩
    · exact ih _ _ _
    · next w1 c hacq =>
      split
      · exact ⟨[], some c, rfl, rfl, by simp⟩
      · next w2 hw =>
        obtain ⟨cs, r, h1, h2⟩ := ih w2 { t with conn := none } (log ++ [⟨c, m, false⟩])
        exact ⟨c :: cs, r, by rw [h1, attempts_cons], h2⟩

theorem backendLoop_log (fuel : Nat) (w : World) (c : Option ConnId) (m : MsgId) (log : List LogEntry) :
    ∃ cs r, (tcpBackendSendLoop fuel w c m log).2.2.2 = log ++ attempts m cs r ∧
      (tcpBackendSendLoop fuel w c m log).2.2.1 = r.isSome := by
  induction fuel generalizing w c log with
  | zero => exact ⟨[], none, by simp [tcpBackendSendLoop, attempts], rfl⟩
  | succ fuel ih =>
    unfold tcpBackendSendLoop
    split
    · exact ⟨[], none, by simp [attempts], rfl⟩
    · exact ih _ _ _
    · next w1 x hacq =>
      split
      · exact ⟨[], some x, rfl, rfl⟩
      · next w2 hw =>
        obtain ⟨cs, r, h1, h2⟩ := ih w2 none (log ++ [⟨x, m, false⟩])
        exact ⟨x :: cs, r, by rw [h1, attempts_cons], h2⟩

/-- **Exactly once / honest error, client transport.** For every fault oracle: a send that reports
success wrote the message completely exactly once; a send that reports an error never did. -/
theorem C20_client (w : World) (t : TcpClient) (m : MsgId) :
    (completed (tcpClientSend w t m).2.2.2 m).length = if (tcpClientSend w t m).2.2.1 then 1 else 0 := by
  obtain ⟨cs, r, h1, h2, -⟩ := clientLoop_log retries w t m []
  unfold tcpClientSend
  rw [h1, h2, List.nil_append, completed_attempts]
  cases r <;> rfl

/-- **Exactly once / honest error, TCP backend.** -/
theorem C20_backend (w : World) (c : Option ConnId) (m : MsgId) :
    (completed (tcpBackendSend w c m).2.2.2 m).length = if (tcpBackendSend w c m).2.2.1 then 1 else 0 := by
  obtain ⟨cs, r, h1, h2⟩ := backendLoop_log retries w c m []
  unfold tcpBackendSend
  rw [h1, h2, List.nil_append, completed_attempts]
  cases r <;> rfl

theorem completed_append (a b : List LogEntry) (m : MsgId) :
    completed (a ++ b) m = completed a m ++ completed b m := by simp [completed]

/-- **Exactly once / honest error, fail-over transport** (inbound primary, reconnectable secondary). -/
theorem C20_failover (w : World) (f : FailOver) (m : MsgId) :
    (completed (failOverSend w f m).2.2.2 m).length = if (failOverSend w f m).2.2.1 then 1 else 0 := by
  unfold failOverSend
  split
  · next p _ =>
    have hc := C20_client w p m
    simp only
    split
    · next hok => simpa [hok] using hc
    · next hok =>
      -- the primary wrote nothing completely, so what counts is the secondary's send
      rw [Bool.not_eq_true] at hok
      rw [hok] at hc
      split
      · next s _ => simpa [completed_append, hc] using C20_client (tcpClientSend w p m).1 s m
      · simpa using hc
  · split
    · next s _ => exact C20_client w s m
    · rfl

/-- **Fallback.** The cached connection fails on write, the destination accepts a new connection and
the write on it succeeds: the SAME send succeeds, having written the message on the fresh
connection (after the failed attempt on the cached one), and keeps the fresh connection. -/
theorem C20_fallback (w w1 w2 w3 : World) (c fresh : ConnId) (m : MsgId)
    (hw : w.write c = (w1, false)) (hd : w1.dial = (w2, .conn fresh)) (hf : w2.write fresh = (w3, true)) :
    tcpClientSend w { reconnectable := true, conn := some c } m =
      (w3, { reconnectable := true, conn := some fresh }, true, [⟨c, m, false⟩, ⟨fresh, m, true⟩]) := by
  simp [tcpClientSend, retries, tcpClientSendLoop, clientAcquire, hw, hd, hf]

/-- the same for a TCP backend -/
theorem C20_fallback_backend (w w1 w2 w3 : World) (c fresh : ConnId) (m : MsgId)
    (hw : w.write c = (w1, false)) (hd : w1.dial = (w2, .conn fresh)) (hf : w2.write fresh = (w3, true)) :
    tcpBackendSend w (some c) m = (w3, some fresh, true, [⟨c, m, false⟩, ⟨fresh, m, true⟩]) := by
  simp [tcpBackendSend, retries, tcpBackendSendLoop, backendAcquire, hw, hd, hf]

/-- **Fail-over.** The inbound (non-reconnectable) primary fails on write: it is forgotten and the same
send goes to the secondary. -/
theorem C20_failover_to_secondary (w w1 : World) (c : ConnId) (s : TcpClient) (m : MsgId)
    (hw : w.write c = (w1, false)) :
    (failOverSend w { primary := some { reconnectable := false, conn := some c }, secondary := some s } m).2.1.primary = none ∧
    (failOverSend w { primary := some { reconnectable := false, conn := some c }, secondary := some s } m).2.2.1
      = (tcpClientSend w1 s m).2.2.1 := by
  simp [failOverSend, tcpClientSend, retries, tcpClientSendLoop, clientAcquire, hw]

/-- **Refusal.** A destination that refuses connections yields an error (no write at all) — the
function is total, so there is no hang in the modelled code. -/
theorem C20_refusal (w w1 : World) (m : MsgId) (hd : w.dial = (w1, .refuse)) :
    tcpClientSend w { reconnectable := true, conn := none } m = (w1, { reconnectable := true, conn := none }, false, []) := by
  simp [tcpClientSend, retries, tcpClientSendLoop, clientAcquire, hd]

theorem C20_refusal_backend (w w1 w2 : World) (m : MsgId) (hd : w.dial = (w1, .refuse)) (hd2 : w1.dial = (w2, .refuse)) :
    tcpBackendSend w none m = (w2, none, false, []) := by
  simp [tcpBackendSend, retries, tcpBackendSendLoop, backendAcquire, hd, hd2]

/-- **Sticks.** After a successful send the transport keeps the connection that worked, and the next
send's first (and, if it succeeds, only) write goes straight to it. -/
theorem C20_sticks (w : World) (t : TcpClient) (m : MsgId) (hok : (tcpClientSend w t m).2.2.1 = true) :
    ∃ c, (tcpClientSend w t m).2.1.conn = some c ∧
      (completed (tcpClientSend w t m).2.2.2 m) = [⟨c, m, true⟩] ∧
      ∀ (w' w'' : World) (m' : MsgId), w'.write c = (w'', true) →
        (tcpClientSend w' (tcpClientSend w t m).2.1 m').2.2.2 = [⟨c, m', true⟩] := by
  obtain ⟨cs, r, h1, h2, h3⟩ := clientLoop_log retries w t m []
  have hok' : (tcpClientSendLoop retries w t m []).2.2.1 = true := hok
  obtain ⟨c, rfl⟩ := Option.isSome_iff_exists.mp (h2 ▸ hok')
  have hc := h3 c rfl
  refine ⟨c, hc, ?_, ?_⟩
  · unfold tcpClientSend
    rw [h1, List.nil_append, completed_attempts]
    rfl
  · intro w' w'' m' hw
    have hc' : (tcpClientSend w t m).2.1.conn = some c := hc
    generalize (tcpClientSend w t m).2.1 = t' at hc'
    simp [tcpClientSend, retries, tcpClientSendLoop, clientAcquire, hc', hw]

/-- F3: both retry loops make at most two attempts. -/
theorem retries_is_two : retries = 2 := rfl

/-! ### non-vacuity: a concrete fault pattern (stale cached connection, healthy destination) -/
example : tcpClientSend { writes := [(1, [false]), (100, [true])], dials := [.conn 100] } { reconnectable := true, conn := some 1 } 7
    = ({ writes := [(1, []), (100, [])], dials := [] }, { reconnectable := true, conn := some 100 }, true,
       [⟨1, 7, false⟩, ⟨100, 7, true⟩]) := by decide +kernel

end Props.C20
