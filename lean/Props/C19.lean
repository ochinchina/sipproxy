/-
C19 — The backend rotation follows name resolution, with bounded failure tolerance.

"For a backend given by host name the set of backends in rotation tracks name resolution: after
each successful resolution the rotation contains exactly the resolved addresses (new ones added,
vanished ones removed and closed); up to three consecutive resolution failures leave the set
untouched and the fourth empties it. Every addition and removal is also reflected in which source
addresses the proxy recognises as its backends when attributing responses."

Model: Side.Resolver (resolver.go addressResolved, backend.go hostIPChanged, proxy.go index
update), composed synchronously — the property grants quiescence between steps; the relative
order of notification goroutines without quiescence is not modelled (partial).
Domain: duplicate-free resolutions of ':'-free (IPv4) addresses, one host name per rotation.
-/
import Side.Resolver
import Props.C05
open GoStd Side.Res

namespace Props.C19

open Props.C05 (WF wf_add wf_remove)

theorem worldStep_fail (port : Bytes) (w : World) :
    worldStep port w .fail =
      if w.entry.failed + 1 > failLimit ∧ w.entry.addrs.length > 0
      then { entry := { addrs := [], failed := 0 }, rot := applyChange w.rot port [] w.entry.addrs }
      else { w with entry := { w.entry with failed := w.entry.failed + 1 } } := by
  by_cases hc : w.entry.failed + 1 > failLimit ∧ w.entry.addrs.length > 0 <;>
    simp [worldStep, step, hc]

/-- a successful resolution moves the rotation by the two differences; when both are empty no notification
is sent, and none was needed -/
theorem worldStep_ok (port : Bytes) (w : World) (S : List Addr) :
    worldStep port w (.ok S) =
      { entry := { addrs := S, failed := 0 },
        rot := applyChange w.rot port (sub S w.entry.addrs) (sub w.entry.addrs S) } := by
  by_cases hc : (sub S w.entry.addrs).length > 0 ∨ (sub w.entry.addrs S).length > 0
  · simp [worldStep, step, hc]
  · simp only [not_or, Nat.not_lt, Nat.le_zero, List.length_eq_zero_iff] at hc
    simp [worldStep, step, applyChange, hc.1, hc.2]

/-- rotation, list/map agreement and the proxy's index agree -/
def RotInv (r : Rot) : Prop :=
  WF r.rr ∧ r.index.Nodup ∧ ∀ a, a ∈ r.index ↔ a ∈ r.rr.backends

theorem rotInv_init : RotInv {} := by
  refine ⟨Props.C05.wf_init, by simp, by simp⟩

theorem rot_add_inv (r : Rot) (a : Addr) (h : RotInv r) (ha : a ∉ r.rr.backends) : RotInv (r.add a) :=
  ⟨wf_add r.rr a h.1 ha, Lemmas.RR.SameMembers.add h.2 ha⟩

theorem rot_add_mem (r : Rot) (a b : Addr) : b ∈ (r.add a).rr.backends ↔ b ∈ r.rr.backends ∨ b = a :=
  Props.C05.C05_added_joins r.rr a b

theorem rot_remove_inv (r : Rot) (a : Addr) (h : RotInv r) : RotInv (r.remove a) := by
  refine ⟨wf_remove r.rr a h.1, ?_⟩
  unfold Rot.remove Side.RR.remove
  split
  · exact Lemmas.RR.SameMembers.erase a h.2 h.1.1
  · exact h.2

theorem rot_remove_mem (r : Rot) (a b : Addr) (h : RotInv r) :
    b ∈ (r.remove a).rr.backends ↔ b ∈ r.rr.backends ∧ b ≠ a := by
  obtain ⟨hgone, hrest⟩ := Props.C05.C05_removed_gone r.rr a h.1
  by_cases hb : b = a
  · subst hb; simpa [Rot.remove] using hgone
  · simpa [Rot.remove, hb] using hrest b hb

/-- `hostIPChanged` on a duplicate-free list of new addresses none of which is registered: the invariant is
kept and the rotation holds what it held, plus the new, minus the removed addresses -/
theorem applyChange_mem (r : Rot) (port : Bytes) (newA remA : List Addr) (h : RotInv r)
    (hnd : (newA.map (hostPort · port)).Nodup) (hdis : ∀ a ∈ newA.map (hostPort · port), a ∉ r.rr.backends) :
    RotInv (applyChange r port newA remA) ∧
    ∀ b, b ∈ (applyChange r port newA remA).rr.backends ↔
      (b ∈ r.rr.backends ∨ b ∈ newA.map (hostPort · port)) ∧ b ∉ remA.map (hostPort · port) := by
  unfold applyChange
  generalize newA.map (hostPort · port) = l at hnd hdis
  generalize remA.map (hostPort · port) = l'
  -- the additions, one at a time
  have hadd : RotInv (l.foldl Rot.add r) ∧ ∀ b, b ∈ (l.foldl Rot.add r).rr.backends ↔ b ∈ r.rr.backends ∨ b ∈ l := by
    induction l generalizing r with
    | nil => simp [h]
    | cons a l ih =>
      have hnd' := List.nodup_cons.mp hnd
      obtain ⟨i1, i2⟩ := ih (r.add a) (rot_add_inv r a h (hdis a (by simp))) hnd'.2 (by
        intro x hx hm
        rcases (rot_add_mem r a x).mp hm with hm | rfl
        · exact hdis x (by simp [hx]) hm
        · exact hnd'.1 hx)
      exact ⟨i1, fun b => by rw [List.foldl_cons, i2 b, rot_add_mem, List.mem_cons, or_assoc]⟩
  -- then the removals
  obtain ⟨h', hmem⟩ := hadd
  generalize l.foldl Rot.add r = r' at h' hmem
  suffices hrem : RotInv (l'.foldl Rot.remove r') ∧
      ∀ b, b ∈ (l'.foldl Rot.remove r').rr.backends ↔ b ∈ r'.rr.backends ∧ b ∉ l' from
    ⟨hrem.1, fun b => by rw [hrem.2 b, hmem b]⟩
  clear hmem
  induction l' generalizing r' with
  | nil => simp [h']
  | cons a l' ih =>
    obtain ⟨i1, i2⟩ := ih (r'.remove a) (rot_remove_inv r' a h')
    exact ⟨i1, fun b => by rw [List.foldl_cons, i2 b, rot_remove_mem r' a b h', List.mem_cons, not_or, and_assoc]⟩

theorem hostPort_v4 (ip port : Bytes) (h : (58 : UInt8) ∉ ip) : hostPort ip port = ip ++ 58 :: port := by
  have : contains 58 ip = false := by
    simp only [contains, List.any_eq_false, beq_iff_eq]
    intro x hx e; exact h (e ▸ hx)
  simp [hostPort, this]

theorem hostPort_inj (a b port : Bytes) (ha : (58 : UInt8) ∉ a) (hb : (58 : UInt8) ∉ b)
    (h : hostPort a port = hostPort b port) : a = b := by
  rw [hostPort_v4 a port ha, hostPort_v4 b port hb] at h
  exact List.append_cancel_right h

def V4 (l : List Addr) : Prop := ∀ ip ∈ l, (58 : UInt8) ∉ ip

/-- the world invariant: the rotation holds exactly the entry's addresses -/
def Sync (port : Bytes) (w : World) : Prop :=
  RotInv w.rot ∧ w.entry.addrs.Nodup ∧ V4 w.entry.addrs ∧
  ∀ a, a ∈ w.rot.rr.backends ↔ ∃ ip ∈ w.entry.addrs, a = hostPort ip port

theorem sync_init (port : Bytes) : Sync port {} := by
  refine ⟨rotInv_init, by simp, by simp [V4], by simp⟩

theorem mem_sub (a1 a2 : List Addr) (x : Addr) : x ∈ sub a1 a2 ↔ x ∈ a1 ∧ x ∉ a2 := by
  simp [sub]

/-- Moving the rotation from the entry's addresses to any duplicate-free IPv4 set `S` by `hostIPChanged`
(add `S` minus old, remove old minus `S`) leaves it holding exactly `S`. A successful resolution is this with
the resolved set, the fourth failure is this with `S = []`. -/
theorem sync_change (port : Bytes) (w : World) (S : List Addr) (h : Sync port w) (hS : S.Nodup) (hv : V4 S) :
    Sync port { entry := { addrs := S, failed := 0 },
                rot := applyChange w.rot port (sub S w.entry.addrs) (sub w.entry.addrs S) } := by
  obtain ⟨hri, hnd, hv4, hmem⟩ := h
  -- `hostPort · port` is injective on S ∪ old, so membership of images is membership of addresses
  have hinj : ∀ x y, (x ∈ S ∨ x ∈ w.entry.addrs) → (y ∈ S ∨ y ∈ w.entry.addrs) →
      hostPort x port = hostPort y port → x = y := fun x y hx hy =>
    hostPort_inj x y port (hx.elim (hv x) (hv4 x)) (hy.elim (hv y) (hv4 y))
  have hnewnd : ((sub S w.entry.addrs).map (hostPort · port)).Nodup :=
    List.pairwise_map.mpr <| (hS.sublist List.filter_sublist).imp_of_mem fun hx hy hne he =>
      hne (hinj _ _ (.inl ((mem_sub _ _ _).mp hx).1) (.inl ((mem_sub _ _ _).mp hy).1) he)
  have hdis : ∀ a ∈ (sub S w.entry.addrs).map (hostPort · port), a ∉ w.rot.rr.backends := by
    intro a ha hm
    obtain ⟨ip, hip, rfl⟩ := List.mem_map.mp ha
    obtain ⟨ip', hip', he⟩ := (hmem _).mp hm
    obtain ⟨hipS, hipn⟩ := (mem_sub _ _ _).mp hip
    exact hipn (hinj ip ip' (.inl hipS) (.inr hip') he ▸ hip')
  obtain ⟨hinv, hback⟩ := applyChange_mem w.rot port _ (sub w.entry.addrs S) hri hnewnd hdis
  refine ⟨hinv, hS, hv, fun a => ?_⟩
  rw [hback a, hmem a]
  simp only [List.mem_map, mem_sub]
  constructor
  · rintro ⟨⟨ip, hip, rfl⟩ | ⟨ip, ⟨hip, -⟩, rfl⟩, hnot⟩
    · exact ⟨ip, Classical.byContradiction fun hs => hnot ⟨ip, ⟨hip, hs⟩, rfl⟩, rfl⟩
    · exact ⟨ip, hip, rfl⟩
  · rintro ⟨ip, hip, rfl⟩
    refine ⟨?_, ?_⟩
    · by_cases ho : ip ∈ w.entry.addrs
      · exact .inl ⟨ip, ho, rfl⟩
      · exact .inr ⟨ip, ⟨hip, ho⟩, rfl⟩
    · rintro ⟨ip', ⟨hip', hn⟩, he⟩
      exact hn (hinj ip' ip (.inr hip') (.inl hip) he ▸ hip)

/-- **Tracks.** After a successful resolution with a duplicate-free set S the rotation (and the
proxy's address index) contains exactly S's addresses; and the invariant is kept. -/
theorem C19_tracks (port : Bytes) (w : World) (S : List Addr) (h : Sync port w) (hS : S.Nodup) (hv : V4 S) :
    Sync port (worldStep port w (.ok S)) ∧ (worldStep port w (.ok S)).entry.addrs = S ∧
    (∀ a, a ∈ (worldStep port w (.ok S)).rot.rr.backends ↔ ∃ ip ∈ S, a = hostPort ip port) ∧
    (∀ a, a ∈ (worldStep port w (.ok S)).rot.index ↔ ∃ ip ∈ S, a = hostPort ip port) := by
  have hsync := sync_change port w S h hS hv
  rw [← worldStep_ok] at hsync
  have hent : (worldStep port w (.ok S)).entry.addrs = S := by rw [worldStep_ok]
  refine ⟨hsync, hent, fun a => ?_, fun a => ?_⟩
  · rw [hsync.2.2.2 a, hent]
  · rw [hsync.1.2.2 a, hsync.2.2.2 a, hent]

/-- **Tolerance.** A failure that is at most the third in a row leaves rotation and index untouched. -/
theorem C19_tolerance (port : Bytes) (w : World) (h : w.entry.failed < 3) :
    (worldStep port w .fail).rot = w.rot ∧ (worldStep port w .fail).entry.addrs = w.entry.addrs ∧
    (worldStep port w .fail).entry.failed = w.entry.failed + 1 := by
  have : ¬ (w.entry.failed + 1 > failLimit ∧ w.entry.addrs.length > 0) := by simp [failLimit]; omega
  rw [worldStep_fail, if_neg this]
  exact ⟨rfl, rfl, rfl⟩

/-- a failure that empties the set is `sync_change` towards the empty set -/
theorem worldStep_fail_empties (port : Bytes) (w : World) (h : Sync port w)
    (hc : w.entry.failed + 1 > failLimit ∧ w.entry.addrs.length > 0) :
    worldStep port w .fail = { entry := { addrs := [], failed := 0 }, rot := applyChange w.rot port [] w.entry.addrs } ∧
    Sync port (worldStep port w .fail) := by
  have hstep := worldStep_fail port w
  rw [if_pos hc] at hstep
  have := sync_change port w [] h (by simp) (by simp [V4])
  rw [show sub [] w.entry.addrs = [] from rfl, show sub w.entry.addrs [] = w.entry.addrs by simp [sub]] at this
  exact ⟨hstep, hstep ▸ this⟩

/-- **Fourth failure.** The fourth consecutive failure empties a non-empty set (rotation and index)
and restarts the count. -/
theorem C19_fourth_empties (port : Bytes) (w : World) (h : Sync port w) (hf : w.entry.failed = 3)
    (hne : w.entry.addrs ≠ []) :
    (worldStep port w .fail).rot.rr.backends = [] ∧ (worldStep port w .fail).rot.index = [] ∧
    (worldStep port w .fail).entry = { addrs := [], failed := 0 } ∧ Sync port (worldStep port w .fail) := by
  obtain ⟨hstep, hsync⟩ := worldStep_fail_empties port w h ⟨by simp [hf, failLimit], List.length_pos_iff.mpr hne⟩
  have hent : (worldStep port w .fail).entry = { addrs := [], failed := 0 } := by rw [hstep]
  have hempty : (worldStep port w .fail).rot.rr.backends = [] :=
    List.eq_nil_iff_forall_not_mem.mpr fun a ha => by simpa [hent] using (hsync.2.2.2 a).mp ha
  refine ⟨hempty, List.eq_nil_iff_forall_not_mem.mpr fun a ha => ?_, hent, hsync⟩
  simpa [hempty] using (hsync.1.2.2 a).mp ha

theorem sync_fail (port : Bytes) (w : World) (h : Sync port w) : Sync port (worldStep port w .fail) := by
  by_cases hc : w.entry.failed + 1 > failLimit ∧ w.entry.addrs.length > 0
  · exact (worldStep_fail_empties port w h hc).2
  · rw [worldStep_fail, if_neg hc]; exact h

def Dom : List Outcome → Prop
  | [] => True
  | .ok S :: os => S.Nodup ∧ V4 S ∧ Dom os
  | .fail :: os => Dom os

theorem sync_foldl (port : Bytes) : ∀ (os : List Outcome) (w : World), Sync port w → Dom os →
    Sync port (os.foldl (worldStep port) w)
  | [], _, hw, _ => hw
  | .ok S :: os, w, hw, hd => sync_foldl port os _ (C19_tracks port w S hw hd.1 hd.2.1).1 hd.2.2
  | .fail :: os, w, hw, hd => sync_foldl port os _ (sync_fail port w hw) hd

/-- **History.** In every state reached by any history of duplicate-free IPv4 resolutions and
failures, rotation, address map and proxy index hold exactly the entry's current addresses. -/
theorem C19_history (port : Bytes) (os : List Outcome) (hd : Dom os) :
    Sync port (os.foldl (worldStep port) {}) :=
  sync_foldl port os {} (sync_init port) hd

/-- The model's failure limit is 3; that the code compares `entry.failed > 3` is the obligation on
fact F3 in Expected/K19.lean (`DynamicHostResolver_addressResolved_shape`). -/
theorem failLimit_is_three : failLimit = 3 := rfl

example : (worldStep [53] (worldStep [53] {} (.ok [[49], [50]])) (.ok [[50]])).rot.rr.backends = [[50, 58, 53]] := by decide +kernel

end Props.C19
