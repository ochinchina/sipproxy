/-
C13 — Route handling.

"If the first Route entry designates the receiving listener exactly that one entry is consumed
before routing; a first entry designating anything else is never consumed on that ground. The
entry naming the next hop is relayed or stripped according to keep-next-hop-route, and all further
Route entries are relayed unchanged and in their original order."

Model: `Proxy.getNextRequestHopByRoute` (next-hop entry), the last step of
`Proxy.handleRawMessage` (own entry). Abstraction: `Lemmas.routeStack`.
"The first Route entry" is what `getRoute` reads: the decoded list of the FIRST Route-class header
(an undecodable first Route header makes `getRoute` fail even if a later one would decode; the
statements below are therefore phrased on `getRoute`, and `routeStack_head_of_getRoute` says that
the entry read is the head of the stack).
-/
import Proxy.Model
import Lemmas.Abs
import Lemmas.PipeExamples
import Side.Config
open GoStd Sip Proxy Lemmas

namespace Props.C13

/-- The Route stack after the next hop has been read from it: relayed whole with
keep-next-hop-route; otherwise exactly the entry that names the next hop (the head) is stripped. -/
theorem routeStack_getNextRequestHopByRoute (cfg : Cfg) (m : Message) :
    routeStack cfg.cm (getNextRequestHopByRoute cfg m).2.headers =
      if cfg.keepNextHopRoute then routeStack cfg.cm m.headers
      else
        match getRoute cfg.cm m with
        | some (_ :: _, _) => (routeStack cfg.cm m.headers).tail
        | _ => routeStack cfg.cm m.headers := by
  unfold getNextRequestHopByRoute
  cases hg : getRoute cfg.cm m with
  | none => cases cfg.keepNextHopRoute <;> rfl
  | some p =>
    obtain ⟨r, m1⟩ := p
    have h1 := (routeStack_getRoute cfg.cm hg).1
    cases r with
    | nil => cases cfg.keepNextHopRoute <;> exact h1
    | cons rp rest =>
      obtain ⟨m2, hp, hs⟩ := routeStack_popRoute_after_get cfg.cm hg
      cases cfg.keepNextHopRoute
      · simp only [Bool.not_false, ↓reduceIte, hp, Option.getD_some, Bool.false_eq_true]
        split <;> exact hs
      · simp only [Bool.not_true, Bool.false_eq_true, ↓reduceIte]
        split <;> exact h1

/-- keep-next-hop-route: every Route entry is relayed, in order -/
theorem C13_keep (cfg : Cfg) (m : Message) (hk : cfg.keepNextHopRoute = true) :
    routeStack cfg.cm (getNextRequestHopByRoute cfg m).2.headers = routeStack cfg.cm m.headers := by
  rw [routeStack_getNextRequestHopByRoute, if_pos hk]

/-- otherwise exactly the entry that names the next hop (the head) is stripped; all further
entries are relayed unchanged and in order. Nothing is stripped when no first entry can be read. -/
theorem C13_strip (cfg : Cfg) (m : Message) (hk : cfg.keepNextHopRoute = false) :
    routeStack cfg.cm (getNextRequestHopByRoute cfg m).2.headers =
      match getRoute cfg.cm m with
      | some (_ :: _, _) => (routeStack cfg.cm m.headers).tail
      | _ => routeStack cfg.cm m.headers := by
  rw [routeStack_getNextRequestHopByRoute, hk]
  rfl

/-- the hop is read from the head entry of the Route stack: host, `getPort` (its defaults: `C13_port`)
and `getTransport` of its SIP URI -/
theorem C13_hop (cfg : Cfg) (m m1 : Message) (rp : RouteParam) (rest : List RouteParam) (u : SIPURI)
    (hg : getRoute cfg.cm m = some (rp :: rest, m1)) (hu : rp.nameAddr.addr = .sip u) :
    (getNextRequestHopByRoute cfg m).1 = some { host := u.host, port := u.getPort, transport := u.getTransport } ∧
    (routeStack cfg.cm m.headers).head? = some rp := by
  refine ⟨?_, routeStack_head_of_getRoute cfg.cm hg⟩
  simp [getNextRequestHopByRoute, hg, hu]

/-- a head entry that is not a SIP URI names no hop (routing falls back to the static table) -/
theorem C13_hop_abs (cfg : Cfg) (m m1 : Message) (rp : RouteParam) (rest : List RouteParam) (s : Bytes)
    (hg : getRoute cfg.cm m = some (rp :: rest, m1)) (hu : rp.nameAddr.addr = .abs s) :
    (getNextRequestHopByRoute cfg m).1 = none := by
  simp [getNextRequestHopByRoute, hg, hu]

/-- no readable first Route entry: no hop, message untouched -/
theorem C13_hop_none (cfg : Cfg) (m : Message) (hg : getRoute cfg.cm m = none) :
    getNextRequestHopByRoute cfg m = (none, m) := by
  simp [getNextRequestHopByRoute, hg]

theorem C13_port (u : SIPURI) :
    u.getPort = if u.port ≠ 0 then u.port
      else if getParam u.params (str "transport") = some (str "tls") then 5061 else 5060 := by
  unfold SIPURI.getPort SIPURI.getTransport
  -- without a transport parameter the default "udp" is compared with "tls"
  have : (str "udp" == str "tls") = false := by simp only [fixture]; decide +kernel
  cases getParam u.params (str "transport") <;> by_cases hp : u.port = 0 <;> simp [hp, this]

/-- Via and Record-Route stacks are not touched by route processing -/
theorem C13_other_stacks (cfg : Cfg)
    (hVR : ∀ x, isSameHeader cfg.cm x viaName = true → isSameHeader cfg.cm x routeName = false)
    (hRRR : ∀ x, isSameHeader cfg.cm x routeName = true → isSameHeader cfg.cm x recordRouteName = false)
    (m : Message) :
    viaStack cfg.cm (getNextRequestHopByRoute cfg m).2.headers = viaStack cfg.cm m.headers ∧
    rrStack cfg.cm (getNextRequestHopByRoute cfg m).2.headers = rrStack cfg.cm m.headers := by
  have f : ∀ {n}, Disj cfg.cm routeName n → ClassFrame cfg.cm n m (getNextRequestHopByRoute cfg m).2 :=
    fun hd => keeps_getNextRequestHopByRoute (frame_pre _ _) cfg (frame_getRoute _ _ _ (hd.hidden.blind _))
      (frame_popRoute _ _ _ hd.hidden) m
  exact ⟨(f (Disj.symm hVR)).stackOf _, (f hRRR).stackOf _⟩

/-! ### the own entry (last stage of `handleRawMessage`)

`Lemmas.designatesListener cfg frm u`: the SIP URI has the listener's port (default 5060, 5061 for
tls) and its host equals the listener's address literally or after resolution. -/

/-- If the first Route entry designates the receiving listener exactly that entry is consumed; a
first entry designating anything else (another host or port, a non-SIP URI) is not consumed, nor is
anything when no first entry can be read. All further entries stay, in order. -/
theorem C13_own_route (cfg : Cfg) (hc : ClassesOK cfg.cm) (st : St) (ev : RawEv) :
    routeStack cfg.cm (handleRawMessage cfg st ev).2.headers =
      match (getRoute cfg.cm ev.msg).map Prod.fst with
      | some (rp :: _) =>
        match rp.nameAddr.addr with
        | .sip u => if designatesListener cfg ev.frm u then (routeStack cfg.cm ev.msg.headers).tail
                    else routeStack cfg.cm ev.msg.headers
        | .abs _ => routeStack cfg.cm ev.msg.headers
      | _ => routeStack cfg.cm ev.msg.headers :=
  routeStack_handleRawMessage cfg hc.via_route hc.cseq_route st ev

/-- the entry in question is the head of the received Route stack -/
theorem C13_own_route_head (cm : List (Bytes × Bytes)) (m : Message) (rp : RouteParam) (rest : List RouteParam)
    (h : (getRoute cm m).map Prod.fst = some (rp :: rest)) : (routeStack cm m.headers).head? = some rp := by
  obtain ⟨⟨_, m1⟩, hg, rfl⟩ := Option.map_eq_some_iff.mp h
  exact routeStack_head_of_getRoute cm hg

theorem C13_designates (cfg : Cfg) (frm : Listener) (u : SIPURI) :
    designatesListener cfg frm u = true ↔
      u.getPort = frm.port ∧
        (u.host = frm.addr ∨ ∃ a b, getIp cfg u.host = some a ∧ getIp cfg frm.addr = some b ∧ a = b) := by
  unfold designatesListener
  cases getIp cfg u.host <;> cases getIp cfg frm.addr <;> simp

/-- The message serialised has the Route stack that `getNextRequestHopByRoute` leaves when applied
to the message coming out of `handleRawMessage` — i.e. `C13_own_route` followed by
`C13_keep` / `C13_strip`; no later stage (static routing, dialog lookup, own Via/Record-Route,
transaction lookup) touches a Route entry. -/
theorem C13_step (cfg : Cfg) (hc : ClassesOK cfg.cm) (st : St) (ev : RawEv)
    (hreq : isRequest ev.msg = true) (o : Out) (ho : o ∈ (step cfg st ev).2) :
    ∃ m' : Message, o.data = m'.bytes cfg.cm ∧
      routeStack cfg.cm m'.headers =
        if cfg.keepNextHopRoute then routeStack cfg.cm (handleRawMessage cfg st ev).2.headers
        else
          match getRoute cfg.cm (handleRawMessage cfg st ev).2 with
          | some (_ :: _, _) => (routeStack cfg.cm (handleRawMessage cfg st ev).2.headers).tail
          | _ => routeStack cfg.cm (handleRawMessage cfg st ev).2.headers := by
  obtain ⟨m', _, hd, _, _, hr, _⟩ := step_request_out cfg hc st ev hreq o ho
  exact ⟨m', hd, hr.trans (routeStack_getNextRequestHopByRoute cfg _)⟩

/-! non-vacuity: the example event (`Lemmas.Pipe`): first Route entry `<sip:p1;lr>` does not
designate the listener 10.0.0.1:5060 and is not consumed; it names the next hop and is stripped
(keep-next-hop-route off). A Route entry naming the listener is consumed. -/

example : (step exCfg exSt (exEv exMsg)).2.length = 1 ∧ isRequest (exEv exMsg).msg = true ∧
    exCfg.keepNextHopRoute = false := by
  obtain ⟨d, h⟩ := step_exMsg
  exact ⟨by rw [h]; rfl, rfl, rfl⟩

example : (routeStack exCfg.cm (handleRawMessage exCfg exSt (exEv exMsg)).2.headers).length = 2 := by
  simp only [fixture]; decide +kernel

def exMsgOwnRoute : Message :=
  { exMsg with headers := { name := str "Route", value := .raw (str "<sip:10.0.0.1;lr>") } :: exMsg.headers }

attribute [fixture] exMsgOwnRoute

example : (routeStack exCfg.cm exMsgOwnRoute.headers).length = 3 ∧
    (routeStack exCfg.cm (handleRawMessage exCfg exSt (exEv exMsgOwnRoute)).2.headers).length = 2 := by
  simp only [fixture]; decide +kernel

example : designatesListener exCfg exListener
    { scheme := str "sip", host := str "10.0.0.1", params := [⟨str "lr", []⟩] } = true := by simp only [fixture]; decide +kernel

/-! non-vacuity: on the example message of `Lemmas.Abs` the first Route entry is a SIP URI -/

example : (getRoute realCm exMsg).map (fun p => p.1.map (fun rp => rp.nameAddr.addr.sipURI?.map (·.host))) =
    some [some (str "p1"), some (str "p2")] := by simp only [fixture]; decide +kernel

/-- `C13_keep` / `C13_strip`: both settings occur -/
example : ({ exCfg with keepNextHopRoute := true }).keepNextHopRoute = true ∧ exCfg.keepNextHopRoute = false :=
  ⟨rfl, rfl⟩

/-- `C13_hop_abs`: a first Route entry that is not a SIP URI -/
example : (getRoute realCm { exMsg with headers := [{ name := routeName, value := .raw (str "<tel:123>") }] }).map
    (fun p => p.1.map (fun rp => rp.nameAddr.addr)) = some [.abs (str "tel:123")] := by simp only [fixture]; decide +kernel

/-- `C13_hop_none`: no Route header -/
example : getRoute realCm exMsgNoRoute = none := by simp only [fixture]; decide +kernel

/-! ### the two start-up decisions C13 depends on (main.go, Side.Config; tied by stream `cfg`)

"... according to the service's keep-next-hop-route setting" and "an alias that resolves to it": how the setting's
text becomes a boolean, and which address an alias has when the global `hosts:` section and the service's own both
define it. -/

/-- the last entry for a name wins -/
theorem lookupHost_eq (l : List (Bytes × Bytes)) (name : Bytes) :
    Side.Config.lookupHost l name = (l.reverse.find? (fun p => p.1 == name)).map (·.2) := by
  rw [Side.Config.lookupHost, List.foldl_eq_foldr_reverse]
  induction l.reverse with
  | nil => rfl
  | cons x xs ih =>
    rw [List.foldr_cons, List.find?_cons, ih]
    cases x.1 == name <;> rfl

/-- the service's own entry for a name overrides the global one -/
theorem C13_service_alias_overrides_global (glob service : List (Bytes × Bytes)) (name ip : Bytes)
    (h : Side.Config.lookupHost service name = some ip) :
    Side.Config.lookupHost (Side.Config.hostTable glob service) name = some ip := by
  rw [lookupHost_eq] at h ⊢
  rw [Side.Config.hostTable, List.reverse_append, List.find?_append]
  cases hs : service.reverse.find? (fun p => p.1 == name) <;> rw [hs] at h
  · cases h
  · exact h

/-- a name only the global section defines keeps its global address -/
theorem C13_global_alias_kept (glob service : List (Bytes × Bytes)) (name : Bytes)
    (h : ∀ p ∈ service, ¬ (p.1 == name)) :
    Side.Config.lookupHost (Side.Config.hostTable glob service) name = Side.Config.lookupHost glob name := by
  rw [lookupHost_eq, lookupHost_eq, Side.Config.hostTable, List.reverse_append, List.find?_append,
    List.find?_eq_none.mpr fun p hp => h p (List.mem_reverse.mp hp)]
  rfl

end Props.C13
