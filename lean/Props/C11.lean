/-
C11 — TCP framing depends on the bytes, not on how the stream is segmented.

"The sequence of messages the proxy extracts from a TCP byte stream depends only on the bytes, not
on their segmentation: for any concatenation of well-formed messages (bodies delimited by
Content-Length, optional blank-line keep-alives between messages, header lines of any length) and
any split of those bytes across packets, exactly those messages are processed, in order, each with
its exact headers and body."

Model: Reader.Frame (`connLoop`, `connLoopSegments`, `joinFragments`) over Sip.parseMessage.
"Well-formed message" is `Lemmas.WF` (Lemmas/Message.lean): start line parses, is non-empty, free
of CR/LF and does not begin with white space; header names free of ':' CR LF; header values free
of CR LF and trimmed; the FIRST Content-Length-class header declares exactly the body length
(≤ int64). Line ends are CRLF or bare LF, chosen per message. Header lines of any length: the
model's `readLine` is bufio.ReadLine joined over its fragments; that the join is the
concatenation of the fragments is `C11_fragments_joined` below and rests on the regenerated fact
F8 (the first fragment is copied before the next reader call), without which it is false
(`C11_fragments_uncopied_corrupt`).
-/
import Reader.Frame
import Lemmas.Message
import Lemmas.Bufio
open GoStd Sip Reader Lemmas

namespace Props.C11

/-- one message as it stands in the stream: `keep` keep-alive CRLFs, then the rendered message -/
structure Wire where
  keep : Nat
  eol : Bytes
  start : Bytes
  sl : StartLine
  hs : List (Bytes × Bytes)
  body : Bytes

def Wire.bytes (w : Wire) : Bytes := keepAlives w.keep ++ render w.eol w.start w.hs w.body

/-- the message the proxy must process for `w`: exact start line, headers (values still strings,
in order) and body -/
def Wire.msg (w : Wire) : Message := ⟨w.sl, w.hs.map toHeader, w.body⟩

def Wire.OK (cm : List (Bytes × Bytes)) (w : Wire) : Prop :=
  EolOK w.eol ∧ WF cm w.start w.sl w.hs w.body

def stream (ws : List Wire) (trail : Nat) : Bytes := (ws.map Wire.bytes).flatten ++ keepAlives trail

/-- The loop processes a run of well-formed messages one by one and then continues on whatever
follows them (`tail` is arbitrary: more messages, garbage, nothing). -/
theorem C11_messages_then (cm : List (Bytes × Bytes)) (ws : List Wire) (hok : ∀ w ∈ ws, w.OK cm)
    (tail : Bytes) :
    connLoop cm ((ws.map Wire.bytes).flatten ++ tail) = ws.map Wire.msg ++ connLoop cm tail := by
  induction ws with
  | nil => simp
  | cons w ws ih =>
    obtain ⟨⟨heol, hwf⟩, hok⟩ := List.forall_mem_cons.mp hok
    have hshape : ((w :: ws).map Wire.bytes).flatten ++ tail
        = keepAlives w.keep ++ (render w.eol w.start w.hs w.body
            ++ ((ws.map Wire.bytes).flatten ++ tail)) := by
      simp [Wire.bytes, List.append_assoc]
    have hparse := parse_render_ws cm w.eol w.start w.sl w.hs w.body heol hwf _
      ((ws.map Wire.bytes).flatten ++ tail) (keepAlives_white w.keep)
    rw [hshape, connLoop_ok cm _ _ _ hparse, ih hok]
    rfl

/-- **Exactly those messages, in order.** For any list of well-formed messages, each preceded by
any number of keep-alive CRLFs (and any number after the last one), the connection loop processes
exactly their `Message` values, in order: each start line, each header with its exact value and
each body exactly as sent; nothing is skipped, merged, split or invented. (The fuel of
`connLoopAux` is discharged once and for all in `Lemmas.connLoop_ok`.) -/
theorem C11_exact_messages (cm : List (Bytes × Bytes)) (ws : List Wire) (hok : ∀ w ∈ ws, w.OK cm)
    (trail : Nat) : connLoop cm (stream ws trail) = ws.map Wire.msg := by
  rw [stream, C11_messages_then cm ws hok,
    connLoop_error cm _ (parseMessage_white cm _ (keepAlives_white trail)), List.append_nil]

/-- **Only the bytes matter.** Two segmentations of the same bytes yield the same messages. -/
theorem C11_segmentation_independent (cm : List (Bytes × Bytes)) (segs segs' : List Bytes)
    (h : segs.flatten = segs'.flatten) : connLoopSegments cm segs = connLoopSegments cm segs' := by
  simp only [connLoopSegments, h]

/-- the two together: however the stream of well-formed messages is cut into packets, exactly
those messages are processed, in order -/
theorem C11_any_split_exact (cm : List (Bytes × Bytes)) (ws : List Wire) (hok : ∀ w ∈ ws, w.OK cm)
    (trail : Nat) (segs : List Bytes) (h : segs.flatten = stream ws trail) :
    connLoopSegments cm segs = ws.map Wire.msg := by
  simp only [connLoopSegments, h, C11_exact_messages cm ws hok trail]

/-- Over-long lines: with the first fragment copied (F8) the joined line is the concatenation of
the fragments ReadLine delivered, whatever the reader does to its buffer afterwards. -/
theorem C11_fragments_joined (σ : Bytes → Bytes) (frags : List Bytes) :
    joinFragments true σ frags = frags.flatten := by
  match frags with
  | [] => rfl
  | [f] => simp [joinFragments]
  | f :: g :: rest => simp [joinFragments]

/-- Without the copy a two-fragment line IS corrupted by a reader that overwrites its buffer
(here: flips the low bit of every byte of the first fragment). -/
theorem C11_fragments_uncopied_corrupt :
    joinFragments false (fun f => f.map (· ^^^ 1)) [[86, 105], [97]] ≠ [[86, 105], [97]].flatten := by
  decide

/-- a line that fits one fragment is never affected -/
theorem C11_single_fragment (c : Bool) (σ : Bytes → Bytes) (f : Bytes) :
    joinFragments c σ [f] = f := rfl

/-! ### the same over the OPERATIONAL `bufio.Reader` (Reader/Bufio.lean)

`connLoopSegments` above is "bufio at its contract": the segments are concatenated by definition.
The theorems below discharge that contract. `Reader.Bufio` models the reader as the state machine
it is (buffer of capacity `N`, one Read of the connection per `fill`, `ReadSlice` / `ReadLine`
with `ErrBufferFull` fragments and the put-back of a trailing CR, `ReadByte` / `UnreadByte`,
`Read` under `io.CopyN`) and message.go's `readLine` join loop, `skipWhiteSpace` and
`ParseMessage` on top of it. For EVERY buffer size `N ≥ 2` (bufio's minimum is 16; the TCP
transport uses 4096) and EVERY way the connection cuts the stream into Reads, the messages
extracted are those of the logical stream. -/

/-- a fresh reader on a connection that will deliver `segs`, Read by Read -/
def fresh (segs : List Bytes) : Bufio.BR := ⟨[], segs⟩

theorem fresh_logical (segs : List Bytes) : (fresh segs).logical = segs.flatten := rfl

theorem fresh_inv (N : Nat) (segs : List Bytes) : Lemmas.Bufio.Inv N (fresh segs) := Nat.zero_le N

/-- the real loop: the operational reader over a segmented stream, with the fuel the stream allows -/
def bufioLoop (N : Nat) (cm : List (Bytes × Bytes)) (segs : List Bytes) : List Message :=
  Bufio.connLoop N cm ((fresh segs).size + 1) (fresh segs)

/-- **The contract, proved**: the operational reader extracts what the logical model extracts from
the concatenation, for every segmentation and every buffer size. -/
theorem C11_bufio_refines (N : Nat) (hN : 2 ≤ N) (cm : List (Bytes × Bytes)) (segs : List Bytes) :
    bufioLoop N cm segs = connLoopSegments cm segs := by
  unfold bufioLoop connLoopSegments connLoop
  rw [Lemmas.Bufio.connLoop_spec N hN cm _ (fresh segs) (fresh_inv N segs)]
  rfl

/-- **Only the bytes matter**, now about the reader's real mechanics: two segmentations of the
same bytes, read through buffers of two (possibly different) sizes, yield the same messages. -/
theorem C11_bufio_segmentation_independent (N N' : Nat) (hN : 2 ≤ N) (hN' : 2 ≤ N')
    (cm : List (Bytes × Bytes)) (segs segs' : List Bytes) (h : segs.flatten = segs'.flatten) :
    bufioLoop N cm segs = bufioLoop N' cm segs' := by
  rw [C11_bufio_refines N hN, C11_bufio_refines N' hN', C11_segmentation_independent cm segs segs' h]

/-- **Exactly those messages, in order, however the stream is cut into packets and whatever the
size of the reader's buffer** - header lines longer than the buffer included (`Wire.OK` puts no
bound on any length). -/
theorem C11_bufio_any_split_exact (N : Nat) (hN : 2 ≤ N) (cm : List (Bytes × Bytes)) (ws : List Wire)
    (hok : ∀ w ∈ ws, w.OK cm) (trail : Nat) (segs : List Bytes) (h : segs.flatten = stream ws trail) :
    bufioLoop N cm segs = ws.map Wire.msg := by
  rw [C11_bufio_refines N hN, C11_any_split_exact cm ws hok trail segs h]

/-- **Header lines of any length**: message.go's `readLine` over the operational reader returns a
CR/LF-free line of ANY length exactly, whatever fragments `ReadLine` cut it into (line longer than
the buffer, CR LF straddling two fragments, segment boundaries anywhere), and leaves the reader
standing exactly behind the line end. -/
theorem C11_bufio_readLine_any_length (N : Nat) (hN : 2 ≤ N) (eol line more : Bytes) (heol : EolOK eol)
    (hcr : (13 : UInt8) ∉ line) (hlf : (10 : UInt8) ∉ line) (segs : List Bytes)
    (h : segs.flatten = line ++ eol ++ more) :
    ∃ b', Bufio.readLine N (fresh segs) = some (line, b') ∧ b'.logical = more := by
  have hlog : (fresh segs).logical = line ++ eol ++ more := by rw [fresh_logical, h]
  have hmem : (10 : UInt8) ∈ (fresh segs).logical := by
    rw [hlog]
    rcases heol with rfl | rfl <;> simp
  obtain ⟨l, b', hr, hfl, _⟩ := Lemmas.Bufio.readLine_lf N hN (fresh segs) (fresh_inv N segs) hmem
  rw [hlog, readLine_eol eol line more heol hcr hlf] at hfl
  simp only [Option.some.injEq, Prod.mk.injEq] at hfl
  obtain ⟨rfl, hm⟩ := hfl
  exact ⟨b', hr, hm.symm⟩

/-- the UDP parse step builds its reader over the datagram's `n` bytes with a buffer of `n` bytes
(bufio raises that to 16): same result as the logical model -/
theorem C11_bufio_udp (cm : List (Bytes × Bytes)) (buf : Bytes) (n : Nat) :
    (Bufio.parseMessage (max n 16) cm (fresh [buf.take n])).map (·.1) = udpParse cm buf n := by
  obtain ⟨h1, _⟩ := Lemmas.Bufio.parseMessage_spec (max n 16) (by omega) cm (fresh [buf.take n])
    (fresh_inv _ _)
  rw [fresh_logical, List.flatten_singleton] at h1
  rw [Lemmas.Bufio.udpParse_eq, ← h1, Option.map_map]
  rfl

/-- non-vacuity of the operational model: a 16-byte reader, the stream cut into Reads of 1, 2 and
19 bytes, a 15-byte line whose CR is the buffer's 16th byte and whose LF comes with the next Read:
the CR is put back, the second fragment is the bare CR LF, one line comes out. -/
example :
    (Bufio.readLine 16 (fresh [[65], [66, 67], [68, 69, 70, 71, 72, 73, 74, 75, 76, 77, 78, 79, 13, 10, 88, 89, 90, 48, 49]])).map
      (fun x => (x.1, x.2.logical))
    = some ([65, 66, 67, 68, 69, 70, 71, 72, 73, 74, 75, 76, 77, 78, 79], [88, 89, 90, 48, 49]) := by
  decide +kernel

/-- a response with two keep-alives in front and CRLF line ends, for any compact table -/
def exampleWire : Wire :=
  { keep := 2, eol := [13, 10],
    start := [83, 73, 80, 47, 50, 46, 48, 32, 50, 48, 48, 32, 79, 75],
    sl := .status [83, 73, 80, 47, 50, 46, 48] 200 [79, 75],
    hs := [(contentLengthName, [50])], body := [104, 105] }

attribute [fixture] exampleWire

theorem exampleWire_ok (cm : List (Bytes × Bytes)) : exampleWire.OK cm :=
  ⟨Or.inl rfl, wf_example_status cm⟩

/-- the same message with bare-LF line ends and no keep-alive -/
def exampleWireLF : Wire := { exampleWire with keep := 0, eol := [10] }

attribute [fixture] exampleWireLF

theorem exampleWireLF_ok (cm : List (Bytes × Bytes)) : exampleWireLF.OK cm :=
  ⟨Or.inr rfl, wf_example_status cm⟩

example (cm : List (Bytes × Bytes)) :
    connLoop cm (stream [exampleWire, exampleWireLF, exampleWire] 1)
      = [exampleWire.msg, exampleWireLF.msg, exampleWire.msg] :=
  C11_exact_messages cm [exampleWire, exampleWireLF, exampleWire]
    (List.forall_mem_cons.mpr ⟨exampleWire_ok cm, List.forall_mem_cons.mpr ⟨exampleWireLF_ok cm,
      List.forall_mem_singleton.mpr (exampleWire_ok cm)⟩⟩) 1

/-- the bytes of that stream cut at two places (inside the first start line, in front of the first blank line) -/
example (cm : List (Bytes × Bytes)) :
    connLoopSegments cm
        [(stream [exampleWire, exampleWireLF] 0).take 9,
         ((stream [exampleWire, exampleWireLF] 0).drop 9).take 30,
         ((stream [exampleWire, exampleWireLF] 0).drop 9).drop 30]
      = [exampleWire.msg, exampleWireLF.msg] :=
  C11_any_split_exact cm [exampleWire, exampleWireLF]
    (List.forall_mem_cons.mpr ⟨exampleWire_ok cm, List.forall_mem_singleton.mpr (exampleWireLF_ok cm)⟩) 0 _ (by
      simp only [List.flatten_cons, List.flatten_nil, List.append_nil, List.take_append_drop])

end Props.C11
