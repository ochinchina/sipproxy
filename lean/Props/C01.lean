/-
C01 — The proxy touches nothing it does not own.

"Whenever the proxy relays a request or a response, the start line, every header field other than
the routing headers it manages (Via, Route, Record-Route) - with its name, its value (modulo
surrounding blanks), its multiplicity and its relative order - and the body bytes reach the next
hop unchanged. The relayed message carries exactly one Content-Length field and its value equals
the number of body bytes sent. Nothing else is added, dropped, reordered or rewritten."

Model: Proxy.Model (`step`) over Sip.Message. "What the proxy does not own" is
`Lemmas.others cm hs`: the (name, printed value) pairs of the headers outside the three owned
classes, in message order with multiplicity (Lemmas/Others.lean). The compact-name table `cm` is
arbitrary: no fact about it is needed (class disjointness is never used, because a replaced value
either belongs to an owned class or prints like the value it replaces).

No hypothesis on the message: the proxy decodes From / To / CSeq in place and prints the DECODED
value, and since those three value types keep the text they were decoded from and print it
(`Lemmas.Literal`: `parseFromTo_encode`, `parseCSeq_encode`), decode-then-encode gives back the
received string for EVERY text (`Lemmas.roundTrips_all`). Before the repairs recorded as D6 / D25 in
DESIGN.md this was a genuine restriction (`RoundTrips`), with counterexamples `007 INVITE` and
`<sip:a@b> ;tag=1`. Via / Route values are owned and never needed it.
-/
import Lemmas.Others
import Lemmas.SampleFixture
import Lemmas.Num
import Lemmas.Message
open GoStd Sip Proxy Lemmas

namespace Props.C01

/-- the conclusion shape of this file: same start line, same body, same not-owned headers -/
def Untouched (cm : List (Bytes × Bytes)) (m m' : Message) : Prop :=
  m'.start = m.start ∧ m'.body = m.body ∧ others cm m'.headers = others cm m.headers

/-! ### the stages of the pipeline

Each is the general lifting of `Lemmas.Keeps` at the frame `OthersFrame` (`others_steps`). -/

/-- Adding the own Via and Record-Route changes nothing else. -/
theorem C01_insertSelf (cfg : Cfg) (m : Message) (t : Listener) (branch : Bytes) :
    Untouched cfg.cm m (insertSelf cfg m t branch) :=
  let K := others_steps cfg.cm
  (keeps_insertSelf K.toPre cfg K.addVia K.addRecordRoute m t branch).untouched

/-- Route learning (decodes every Via), received/rport stamping, remembering the inbound
connection (decodes CSeq and Via) and consuming the own top Route entry change nothing else. -/
theorem C01_handleRawMessage (cfg : Cfg) (st : St) (ev : RawEv) :
    Untouched cfg.cm ev.msg (handleRawMessage cfg st ev).2 :=
  (keeps_handleRawMessage cfg (others_steps cfg.cm) st ev).untouched

/-- Dialog bookkeeping on responses (decodes CSeq, Via, From, To) changes nothing else. -/
theorem C01_handleDialog (cfg : Cfg) (st : St) (peerAddr : Bytes) (peerPort : Int) (m : Message) :
    Untouched cfg.cm m (handleDialog cfg st peerAddr peerPort m).2 :=
  (keeps_handleDialog cfg (others_steps cfg.cm).toDecodes st peerAddr peerPort m).untouched

/-- Choosing the next hop (decodes and pops Route; decodes To for the static route) changes nothing
else. -/
theorem C01_getNextRequestHop (cfg : Cfg) (m : Message) :
    Untouched cfg.cm m (getNextRequestHop cfg m).2 :=
  let K := others_steps cfg.cm
  (keeps_getNextRequestHop K.toPre cfg K.getRoute K.popRoute K.getTo m).untouched

/-- The same for the Route part alone. -/
theorem C01_getNextRequestHopByRoute (cfg : Cfg) (m : Message) :
    Untouched cfg.cm m (getNextRequestHopByRoute cfg m).2 :=
  let K := others_steps cfg.cm
  (keeps_getNextRequestHopByRoute K.toPre cfg K.getRoute K.popRoute m).untouched

/-- Popping the own Via of a response and reading the next one changes nothing else. -/
theorem C01_responseHop (cfg : Cfg) (m : Message) :
    Untouched cfg.cm m (getNextResponseHop cfg ((popVia cfg.cm m).getD m)).2 :=
  let K := others_steps cfg.cm
  (K.trans (K.toPre.getD K.popVia m) (keeps_getNextResponseHop K.toPre cfg K.getVia _)).untouched

/-- EVERY output of one step of the proxy — request or response, towards a Route hop, a static
route, a backend (pinned or rotated) or back along the Via chain — carries the printed form of a
message with the start line, the body and the not-owned headers of the message received. -/
theorem C01_step (cfg : Cfg) (st : St) (ev : RawEv) :
    ∀ o ∈ (step cfg st ev).2, ∃ m', outData o = m'.bytes cfg.cm ∧ Untouched cfg.cm ev.msg m' := by
  intro o ho
  obtain ⟨m', h1, h2⟩ := step_carries cfg (others_steps cfg.cm) st ev o ho
  exact ⟨m', (outData_eq o).trans h2, h1.untouched⟩

/-- the same for `HandleMessage` alone (any message, e.g. the one the earlier stages produced) -/
theorem C01_handleMessage (cfg : Cfg) (st : St) (ev : RawEv) (m : Message) :
    ∀ o ∈ (handleMessage cfg st ev m).2, ∃ m', outData o = m'.bytes cfg.cm ∧ Untouched cfg.cm m m' := by
  intro o ho
  obtain ⟨m', h1, h2⟩ := handleMessage_carries cfg (others_steps cfg.cm) st ev m o ho
  exact ⟨m', (outData_eq o).trans h2, h1.untouched⟩

/-! ### exactly one Content-Length, equal to the number of body bytes -/

def headerLine (h : Header) : Bytes := h.name ++ [58, 32] ++ h.value.encode ++ crlf

def isCL (cm : List (Bytes × Bytes)) (n : Bytes) : Bool := isSameHeader cm n contentLengthName

/-- `encodeHeaders` prints, in order, exactly the headers NOT in the Content-Length class. -/
theorem encodeHeaders_eq (cm : List (Bytes × Bytes)) (hs : List Header) :
    encodeHeaders cm hs = ((hs.filter (fun h => !isCL cm h.name)).map headerLine).flatten := by
  rw [encodeHeaders_eq_flatMap, List.flatMap_def]; rfl

theorem contentLength_prefix : contentLengthName ++ [58, 32] = str "Content-Length: " := by simp only [fixture]; decide +kernel

/-- `Message.bytes`: first line, the header lines outside the Content-Length class, then exactly
one `Content-Length: <number of body bytes>`, the empty line, the body. -/
theorem C01_one_content_length (cm : List (Bytes × Bytes)) (m : Message) :
    m.bytes cm =
      encodeFirstLine m.start
      ++ ((m.headers.filter (fun h => !isCL cm h.name)).map headerLine).flatten
      ++ str "Content-Length: " ++ natToBytes m.body.length ++ crlf ++ crlf ++ m.body := by
  unfold Message.bytes
  rw [encodeHeaders_eq, ← contentLength_prefix]
  simp only [List.append_assoc]

/-- the printed number reads back as the number of body bytes (inside int64) -/
theorem C01_content_length_value (m : Message) (h : m.body.length ≤ 9223372036854775807) :
    atoi (natToBytes m.body.length) = some (Int.ofNat m.body.length) :=
  Lemmas.atoi_natToBytes _ h

/-- No line printed from the header list belongs to the Content-Length class. -/
theorem C01_no_listed_content_length (cm : List (Bytes × Bytes)) (hs : List Header) :
    ∀ h ∈ hs.filter (fun h => !isCL cm h.name), isCL cm h.name = false := by
  intro h hm
  simpa using (List.mem_filter.mp hm).2

/-- The printed lines of the not-owned headers are a function of `others`: equal `others` means the
same lines (name, ": ", value, CRLF), same multiplicity, same order. -/
theorem C01_printed_others (cm : List (Bytes × Bytes)) (hs : List Header) :
    (hs.filter (fun h => !owned cm h.name && !isCL cm h.name)).map headerLine =
      ((others cm hs).filter (fun p => !isCL cm p.1)).map (fun p => p.1 ++ [58, 32] ++ p.2 ++ crlf) := by
  rw [others, List.filter_map, List.filter_filter, List.map_map]
  simp only [Bool.and_comm, Function.comp_def]
  rfl

/-- The bytes on the wire, start to end: everything except the owned header lines is determined by
the message RECEIVED. -/
theorem C01_wire (cfg : Cfg) (st : St) (ev : RawEv) :
    ∀ o ∈ (step cfg st ev).2, ∃ hs' : List Header,
      outData o =
        encodeFirstLine ev.msg.start
        ++ ((hs'.filter (fun h => !isCL cfg.cm h.name)).map headerLine).flatten
        ++ str "Content-Length: " ++ natToBytes ev.msg.body.length ++ crlf ++ crlf ++ ev.msg.body ∧
      (hs'.filter (fun h => !owned cfg.cm h.name && !isCL cfg.cm h.name)).map headerLine =
        (ev.msg.headers.filter (fun h => !owned cfg.cm h.name && !isCL cfg.cm h.name)).map headerLine := by
  intro o ho
  obtain ⟨m', hd, hs, hb, hothers⟩ := C01_step cfg st ev o ho
  refine ⟨m'.headers, ?_, ?_⟩
  · rw [hd, C01_one_content_length, hs, hb]
  · rw [C01_printed_others, C01_printed_others, hothers]

/-- a received header line as the proxy prints it again: `name: value` CRLF -/
def wireLine (h : Bytes × Bytes) : Bytes := h.1 ++ [58, 32] ++ h.2 ++ crlf

theorem filter_map_toHeader (p : Bytes → Bool) (hs : List (Bytes × Bytes)) :
    ((hs.map toHeader).filter (fun h => p h.name)).map headerLine = (hs.filter (fun h => p h.1)).map wireLine := by
  rw [List.filter_map, List.map_map]
  rfl

/-- WIRE TO WIRE. The bytes received are a well-formed message `start / hs / body` (either line ending,
any blanks after the colon, values trimmed: `WF` and `parse_render`), `ev.msg` is what the reader
extracted from them, and the start line is one the codec prints back as it reads it (`hstart`: C14's
subject; it fails only on the inputs tracked as known findings). Then EVERY output of the step is,
byte for byte: the received start line, CRLF, header lines, exactly one Content-Length equal to the
number of body bytes, a blank line, the received body; and the lines outside the Via / Route /
Record-Route / Content-Length classes are exactly the received (name, value) pairs, in order, with
multiplicity. -/
theorem C01_wire_to_wire (cfg : Cfg) (st : St) (ev : RawEv) (eol start : Bytes) (sl : StartLine)
    (hs : List (Bytes × Bytes)) (body rest : Bytes) (heol : EolOK eol) (hwf : WF cfg.cm start sl hs body)
    (hrecv : parseMessage cfg.cm (render eol start hs body ++ rest) = .ok ev.msg rest)
    (hstart : startLineBytes sl = start) :
    ∀ o ∈ (step cfg st ev).2, ∃ hs' : List Header,
      outData o =
        start ++ crlf
        ++ ((hs'.filter (fun h => !isCL cfg.cm h.name)).map headerLine).flatten
        ++ str "Content-Length: " ++ natToBytes body.length ++ crlf ++ crlf ++ body ∧
      (hs'.filter (fun h => !owned cfg.cm h.name && !isCL cfg.cm h.name)).map headerLine =
        (hs.filter (fun h => !owned cfg.cm h.1 && !isCL cfg.cm h.1)).map wireLine := by
  have hm : ev.msg = ⟨sl, hs.map toHeader, body⟩ := by
    rw [parse_render cfg.cm eol start sl hs body heol hwf rest] at hrecv
    injection hrecv with h1 _
    exact h1.symm
  intro o ho
  obtain ⟨hs', h1, h2⟩ := C01_wire cfg st ev o ho
  refine ⟨hs', ?_, ?_⟩
  · rw [h1, hm, encodeFirstLine_eq, hstart]
  · rw [h2, hm]
    exact filter_map_toHeader (fun n => !owned cfg.cm n && !isCL cfg.cm n) hs

/-- the hypotheses of `C01_wire_to_wire` are satisfiable: `SIP/2.0 200 OK` / `Content-Length: 2` / `hi`
received with bare-LF line ends and three bytes of the next message behind it, any configuration -/
example (cfg : Cfg) (st : St) (ev : RawEv)
    (hev : ev.msg = ⟨.status [83, 73, 80, 47, 50, 46, 48] 200 [79, 75], [⟨contentLengthName, .raw [50]⟩], [104, 105]⟩) :=
  C01_wire_to_wire cfg st ev [10] _ _ _ _ [73, 78, 86] (Or.inr rfl) (wf_example_status cfg.cm)
    (by rw [hev]; exact parse_render cfg.cm _ _ _ _ _ (Or.inr rfl) (wf_example_status cfg.cm) _) (by decide)

open Lemmas.Sample in
open Lemmas.Sample in
/-- they do produce an output (backend, Route hop, Via chain), and `others` is far from empty:
for `invite` it lists Max-Forwards, X-Foo, f, To, Call-ID, CSeq, X-Foo, Content-Length -/
example : (step cfg st (ev invite)).2.length = 1 ∧ (step cfg st (ev routed)).2.length = 1 ∧
    (step cfg st (ev resp)).2.length = 1 ∧
    (others cfg.cm invite.headers).map (·.1) =
      [str "Max-Forwards", str "X-Foo", str "f", str "To", str "Call-ID", str "CSeq", str "X-Foo",
       str "Content-Length"] := by simp only [fixture]; decide +kernel
open Lemmas.Sample in
/-- a blank before the From parameters, a tab inside CSeq: decoded in place (dialog bookkeeping), and the
not-owned headers still print as received -/
example :
    let m : Message := { invite with headers := [raw "From" "<sip:alice@a.example> ;tag=1", raw "To" "<sip:b@c>;tag=2",
                                                 raw "Call-ID" "x", raw "CSeq" "007\tINVITE"] }
    (getDialog cfg.cm m).2.headers ≠ m.headers ∧
    others cfg.cm (getDialog cfg.cm m).2.headers = others cfg.cm m.headers := by
  intro m
  have K := others_steps cfg.cm
  exact ⟨by simp only [m, fixture]; decide +kernel, (decoded_getDialog cfg.cm m K.toDecodes).headers⟩

end Props.C01
