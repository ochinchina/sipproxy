/-
C02 — Responses travel back along the Via stack.

"A response … is relayed iff, after its topmost Via entry is discarded, another Via entry remains;
it is then sent over that entry's transport to the entry's sent-by host and port (default 5060) -
or, when the entry carries received, to that address and to its numeric rport if it has one (else
the sent-by port) - with all remaining Via entries intact and in order."

Model: the response branch of `Proxy.handleMessage` (`popVia`, then `getNextResponseHop`).
Abstraction: `Lemmas.viaStack`. "The topmost Via entry" is what `getVia` reads: the decoded list of
the FIRST Via-class header.
-/
import Proxy.Model
import Lemmas.Abs
import Lemmas.PipeExamples
import Lemmas.Num
import Props.C07
open GoStd Sip Proxy Lemmas

namespace Props.C02

/-- where a response goes, as a function of the Via entry that is topmost after the pop -/
def responseHopOf (vp : ViaParam) : Hop :=
  match getParam vp.params (str "received") with
  | some r =>
    { host := r, port := ((getParam vp.params (str "rport")).bind atoi).getD vp.getPort, transport := vp.transport }
  | none => { host := vp.host, port := vp.getPort, transport := vp.transport }

/-- `getNextResponseHop` in closed form: the hop of the first entry `getVia` reads, if there is one, and
the message as `getVia` left it -/
theorem getNextResponseHop_eq (cfg : Cfg) (m : Message) :
    getNextResponseHop cfg m =
      (((getVia cfg.cm m).bind (·.1.head?)).map responseHopOf, ((getVia cfg.cm m).map (·.2)).getD m) := by
  unfold getNextResponseHop responseHopOf
  rcases getVia cfg.cm m with _ | ⟨_ | ⟨vp, _⟩, m1⟩
  · rfl
  · rfl
  · dsimp only [Option.bind_some, List.head?_cons, Option.map_some, Option.getD_some]
    cases getParam vp.params (str "received") with
    | none => rfl
    | some r => cases (getParam vp.params (str "rport")).bind atoi <;> rfl

/-- `getNextResponseHop` reads the hop from the first entry of the first Via-class header and only
decodes that header in place. -/
theorem C02_hop (cfg : Cfg) (m m1 : Message) (vp : ViaParam) (rest : List ViaParam)
    (hg : getVia cfg.cm m = some (vp :: rest, m1)) :
    getNextResponseHop cfg m = (some (responseHopOf vp), m1) := by
  rw [getNextResponseHop_eq, hg]
  rfl

/-- no readable Via entry: no hop -/
theorem C02_hop_none (cfg : Cfg) (m : Message) :
    (∀ vp rest m1, getVia cfg.cm m ≠ some (vp :: rest, m1)) → (getNextResponseHop cfg m).1 = none := by
  intro h
  rw [getNextResponseHop_eq]
  rcases hg : getVia cfg.cm m with _ | ⟨_ | ⟨vp, rest⟩, m1⟩
  · rfl
  · rfl
  · exact absurd hg (h vp rest m1)

/-- the message is only decoded in place: its Via stack is unchanged -/
theorem C02_hop_stack (cfg : Cfg) (m : Message) :
    viaStack cfg.cm (getNextResponseHop cfg m).2.headers = viaStack cfg.cm m.headers :=
  (keeps_getNextResponseHop (frame_pre _ _) cfg (frame_getVia _ _ _ (blind_via_self _)) m).viaStack

/-- a hop is read exactly from a non-empty list in the first Via-class header -/
theorem hop_some (cfg : Cfg) {m : Message} {hop : Hop} (h : (getNextResponseHop cfg m).1 = some hop) :
    ∃ vp r m2, getVia cfg.cm m = some (vp :: r, m2) ∧ getNextResponseHop cfg m = (some (responseHopOf vp), m2) := by
  revert h
  rw [getNextResponseHop_eq]
  rcases getVia cfg.cm m with _ | ⟨_ | ⟨vp, r⟩, m2⟩
  · exact nofun
  · exact nofun
  · exact fun _ => ⟨vp, r, m2, rfl, rfl⟩

/-! ### the four cases of the property text -/

/-- no `received`: sent-by host and port over the entry's transport -/
theorem C02_sentby (vp : ViaParam) (h : getParam vp.params (str "received") = none) :
    responseHopOf vp = { host := vp.host, port := vp.getPort, transport := vp.transport } := by
  simp [responseHopOf, h]

/-- `received` and a numeric `rport`: that address and that port -/
theorem C02_received_rport (vp : ViaParam) (r p : Bytes) (n : Int)
    (h : getParam vp.params (str "received") = some r)
    (hp : getParam vp.params (str "rport") = some p) (hn : atoi p = some n) :
    responseHopOf vp = { host := r, port := n, transport := vp.transport } := by
  simp [responseHopOf, h, hp, hn]

/-- `received` and an `rport` that is not a number (e.g. the bare flag): sent-by port -/
theorem C02_received_badrport (vp : ViaParam) (r p : Bytes)
    (h : getParam vp.params (str "received") = some r)
    (hp : getParam vp.params (str "rport") = some p) (hn : atoi p = none) :
    responseHopOf vp = { host := r, port := vp.getPort, transport := vp.transport } := by
  simp [responseHopOf, h, hp, hn]

/-- `received` without `rport`: sent-by port -/
theorem C02_received_norport (vp : ViaParam) (r : Bytes)
    (h : getParam vp.params (str "received") = some r)
    (hp : getParam vp.params (str "rport") = none) :
    responseHopOf vp = { host := r, port := vp.getPort, transport := vp.transport } := by
  simp [responseHopOf, h, hp]

/-- sent-by port: the given one, else 5060 (5061 over TLS) -/
theorem C02_port (vp : ViaParam) :
    vp.getPort = if vp.port ≠ 0 then vp.port else if vp.transport = str "TLS" then 5061 else 5060 := by
  unfold ViaParam.getPort
  by_cases hp : vp.port = 0 <;> simp [hp]

/-! ### relayed iff an entry remains -/

/-- No readable entry after the pop (none left, or the next Via-class header does not decode), no relay. -/
theorem C02_no_hop_no_send (cfg : Cfg) (st : St) (ev : RawEv) (m : Message)
    (hresp : isRequest m = false)
    (hnone : (getNextResponseHop cfg ((popVia cfg.cm m).getD m)).1 = none) :
    (handleMessage cfg st ev m).2 = [] := by
  rw [handleMessage_response cfg st ev m hresp, hnone]

/-- in particular a response whose pop leaves no Via-class header is not relayed -/
theorem C02_no_via_no_send (cfg : Cfg) (st : St) (ev : RawEv) (m : Message)
    (hresp : isRequest m = false)
    (hnone : findHeader cfg.cm ((popVia cfg.cm m).getD m).headers viaName = none) :
    (handleMessage cfg st ev m).2 = [] :=
  C02_no_hop_no_send cfg st ev m hresp (by
    rw [getNextResponseHop_eq, getVia_none_of_find_none cfg.cm hnone]; rfl)

/-- A response with a readable entry after the pop is passed to `sendMessage` for the hop that entry
determines. -/
theorem C02_relay (cfg : Cfg) (st : St) (ev : RawEv) (m m1 m2 : Message) (vp : ViaParam) (rest : List ViaParam)
    (hresp : isRequest m = false) (hpop : popVia cfg.cm m = some m1)
    (hg : getVia cfg.cm m1 = some (vp :: rest, m2)) :
    ∃ st1 m3, handleMessage cfg st ev m = sendMessage cfg st1 (responseHopOf vp) m3 := by
  rw [handleMessage_response cfg st ev m hresp, hpop, Option.getD_some, C02_hop cfg m1 m2 vp rest hg]
  exact ⟨_, _, rfl⟩

/-- the remaining entries: the pop removes exactly the topmost one -/
theorem C02_remaining (cfg : Cfg) (m m1 : Message) (hpop : popVia cfg.cm m = some m1)
    (hne : ∀ hd, findHeader cfg.cm m.headers viaName = some hd → hd.value ≠ .via []) :
    viaStack cfg.cm m1.headers = (viaStack cfg.cm m.headers).tail :=
  viaStack_popVia cfg.cm hpop hne

/-! ### end to end: a response through `handleMessage` and through one `step`

`v` is the list `getVia` reads from the received response `m0` (the decoded first Via-class header),
`rest` everything below it, `m` what reaches `handleMessage`: `m0` up to decoding in place; the relayed message carries `v.tail ++ rest`, i.e. the received stack
without its topmost entry (`v ≠ []` for every header that came off the wire, `parseVia_ne_nil`),
and is sent to the hop determined by the new topmost entry. -/

theorem C02_handleMessage_out (cfg : Cfg) (hc : ClassesOK cfg.cm) (st : St) (ev : RawEv) (m0 m : Message)
    (hf : ViaFrame cfg.cm m0 m) (hresp : isRequest m0 = false) (o : Out) (ho : o ∈ (handleMessage cfg st ev m).2) :
    ∃ (v rest : List ViaParam) (vp : ViaParam) (m' : Message),
      (getVia cfg.cm m0).map Prod.fst = some v ∧ viaStack cfg.cm m0.headers = v ++ rest ∧
      (v.tail ++ rest).head? = some vp ∧
      o.data = m'.bytes cfg.cm ∧ viaStack cfg.cm m'.headers = v.tail ++ rest ∧
      ∃ st1 m3, handleMessage cfg st ev m = sendMessage cfg st1 (responseHopOf vp) m3 := by
  have hrespm : isRequest m = false := by
    unfold isRequest at hresp ⊢
    rw [hf.start]; exact hresp
  obtain ⟨hop, m', hh, hd, hF, st1, m3, heq⟩ :=
    handleMessage_response_shape cfg st ev m hrespm o ho
  obtain ⟨vp, r, m2, hg1, hhop⟩ := hop_some cfg hh
  rw [hhop] at hh hF
  cases hh
  cases hp : popVia cfg.cm m with
  | none =>
    -- no pop: the hop was read from `m` itself, yet `popVia` fails only where `getVia` does
    rw [hp, Option.getD_none] at hg1
    have := popVia_isSome cfg.cm m
    rw [hp, hg1] at this
    cases this
  | some m1 =>
    rw [hp, Option.getD_some] at hg1
    obtain ⟨v, _, rest, hg, h1, h2⟩ := viaStack_popVia_gen cfg.cm hp
    refine ⟨v, rest, vp, m', by rw [← hf.getVia_fst, hg]; rfl, by rw [← hf.viaStack]; exact h1, ?_, hd, ?_, st1, m3, heq⟩
    · rw [← h2]; exact viaStack_head_of_getVia cfg.cm hg1
    · rw [(hF (via_decodes hc)).viaStack, (viaStack_getVia cfg.cm hg1).1, h2]

/-- A response event through one `step`: every packet it produces serialises a message carrying the
received Via stack minus its topmost entry, all remaining entries intact and in order, and the
whole step is a `sendMessage` to the hop the new topmost entry determines. -/
theorem C02_step (cfg : Cfg) (hc : ClassesOK cfg.cm) (st : St) (ev : RawEv)
    (hresp : isRequest ev.msg = false) (o : Out) (ho : o ∈ (step cfg st ev).2) :
    ∃ (v rest : List ViaParam) (vp : ViaParam) (m' : Message),
      (getVia cfg.cm ev.msg).map Prod.fst = some v ∧ viaStack cfg.cm ev.msg.headers = v ++ rest ∧
      (v.tail ++ rest).head? = some vp ∧
      o.data = m'.bytes cfg.cm ∧ viaStack cfg.cm m'.headers = v.tail ++ rest ∧
      ∃ st1 m3, step cfg st ev = sendMessage cfg st1 (responseHopOf vp) m3 := by
  rw [step_eq] at ho ⊢
  exact C02_handleMessage_out cfg hc _ ev _ _ (viaFrame_step_response cfg hc st ev hresp) hresp o ho

/-- For a response that came off the wire (first Via-class header still raw) the relayed stack is
exactly the tail of the received one. -/
theorem C02_step_raw (cfg : Cfg) (hc : ClassesOK cfg.cm) (st : St) (ev : RawEv)
    (hresp : isRequest ev.msg = false)
    (hraw : ∀ hd, findHeader cfg.cm ev.msg.headers viaName = some hd → ∃ s, hd.value = .raw s)
    (o : Out) (ho : o ∈ (step cfg st ev).2) :
    ∃ m' : Message, o.data = m'.bytes cfg.cm ∧
      viaStack cfg.cm m'.headers = (viaStack cfg.cm ev.msg.headers).tail := by
  obtain ⟨v, rest, vp, m', a1, a2, _, a4, a5, _⟩ := C02_step cfg hc st ev hresp o ho
  obtain ⟨⟨_, m1⟩, hg, rfl⟩ := Option.map_eq_some_iff.mp a1
  -- what `getVia` read is not empty: the header it read from is raw, and a text decodes to no empty list
  have hne := getLazy_ne_nil cfg.cm viaSlot parseVia_ne_nil (getVia_eq cfg.cm _ ▸ hg) fun hd hf hv => by
    obtain ⟨s, hs⟩ := hraw hd hf
    rw [hs] at hv; cases hv
  exact ⟨m', a4, by rw [a5, a2, List.tail_append_of_ne_nil hne]⟩

/-! ### non-vacuity (fixtures of `Lemmas.Pipe`)

The example response carries the proxy's own Via on top and, beneath it, an entry with
received=10.0.0.7;rport=4444: it is relayed there over UDP, with two Via entries left. -/

example : isRequest (exEv exResp).msg = false ∧
    (step exCfg exSt (exEv exResp)).2.map (fun o => match o with
      | .udp ip port _ => (ip, port) | _ => ([], 0)) = [(str "10.0.0.7", 4444)] := by
  obtain ⟨d, h⟩ := step_exResp
  exact ⟨rfl, by rw [h]; rfl⟩

example : (viaStack exCfg.cm exResp.headers).length = 3 ∧ (popVia exCfg.cm exResp).isSome = true ∧
    ((popVia exCfg.cm exResp).bind (fun m1 => (getVia exCfg.cm m1).map (fun p => p.1.map responseHopOf))) =
      some [{ host := str "10.0.0.7", port := 4444, transport := str "UDP" },
            { host := str "b", port := 5060, transport := str "TCP" }] := by simp only [fixture]; decide +kernel

/-- `C02_no_via_no_send` applies to a response with a single Via entry -/
example : isRequest { exResp with headers := exResp.headers.take 1 } = false ∧
    findHeader exCfg.cm ((popVia exCfg.cm { exResp with headers := exResp.headers.take 1 }).getD
      { exResp with headers := exResp.headers.take 1 }).headers viaName = none := by
  simp only [fixture]; decide +kernel

/-- the four cases of `responseHopOf`, each on a concrete entry -/
def exVp (ps : List KeyValue) : ViaParam :=
  { protoName := str "SIP", protoVersion := str "2.0", transport := str "TLS", host := str "h", port := 0, params := ps }

attribute [fixture] exVp

example : getParam (exVp []).params (str "received") = none ∧
    responseHopOf (exVp []) = { host := str "h", port := 5061, transport := str "TLS" } := by simp only [fixture]; decide +kernel
example : getParam (exVp [⟨str "received", str "r"⟩, ⟨str "rport", str "77"⟩]).params (str "received") = some (str "r") ∧
    getParam (exVp [⟨str "received", str "r"⟩, ⟨str "rport", str "77"⟩]).params (str "rport") = some (str "77") ∧
    atoi (str "77") = some 77 ∧
    responseHopOf (exVp [⟨str "received", str "r"⟩, ⟨str "rport", str "77"⟩]) =
      { host := str "r", port := 77, transport := str "TLS" } := by simp only [fixture]; decide +kernel
example : getParam (exVp [⟨str "rport", []⟩, ⟨str "received", str "r"⟩]).params (str "rport") = some [] ∧
    atoi [] = none ∧
    responseHopOf (exVp [⟨str "rport", []⟩, ⟨str "received", str "r"⟩]) =
      { host := str "r", port := 5061, transport := str "TLS" } := by simp only [fixture]; decide +kernel
example : getParam (exVp [⟨str "received", str "r"⟩]).params (str "rport") = none ∧
    responseHopOf (exVp [⟨str "received", str "r"⟩]) =
      { host := str "r", port := 5061, transport := str "TLS" } := by simp only [fixture]; decide +kernel

/-- `C02_remaining`, `C02_step_raw`: the example response has a raw top Via -/
example : ∀ hd, findHeader exCfg.cm exResp.headers viaName = some hd → ∃ s, hd.value = .raw s := by
  intro hd h
  have : findHeader exCfg.cm exResp.headers viaName =
      some { name := str "Via", value := .raw (str "SIP/2.0/UDP 10.0.0.1:5060;branch=z9hG4bKabc") } := by
    simp only [fixture]; decide +kernel
  rw [this] at h
  cases h
  exact ⟨_, rfl⟩

/-- Stamping and the response hop, on one Via entry: an entry `vp` that asked for `rport` (with or without a
value, even a forged one), stamped with the source `(ip, port)` (`stampReceived`, what `SetReceived` writes),
yields the response hop `(ip, port)`: the true source address and port. -/
theorem C02_pair_rport (vp : ViaParam) (ip : Bytes) (port : Int)
    (hport : 0 ≤ port) (hsmall : port ≤ 9223372036854775807)
    (h : hasParam vp.params (str "rport") = true) :
    responseHopOf (stampReceived vp ip port) = { host := ip, port := port, transport := vp.transport } :=
  C02_received_rport _ ip (itoa port) port (Props.C07.C07_received vp ip port)
    (Props.C07.C07_rport_present vp ip port h) (atoi_itoa hport hsmall)

/-- An entry without `rport`, stamped with `(ip, port)`, yields the source address `ip` and the entry's own
sent-by port (`vp.getPort`). -/
theorem C02_pair_no_rport (vp : ViaParam) (ip : Bytes) (port : Int)
    (h : hasParam vp.params (str "rport") = false) :
    responseHopOf (stampReceived vp ip port) = { host := ip, port := vp.getPort, transport := vp.transport } :=
  C02_received_norport _ ip (Props.C07.C07_received vp ip port) (Props.C07.C07_rport_absent vp ip port h)

/-- Hence a response whose Via stack, after the proxy's own entry has been popped, starts with the entry the proxy
stamped on the way in (one that asked for `rport`), goes back to where the request really came from. -/
theorem C02_returns_to_true_source (cfg : Cfg) (m m1 : Message) (vp : ViaParam) (rest : List ViaParam)
    (ip : Bytes) (port : Int) (hport : 0 ≤ port) (hsmall : port ≤ 9223372036854775807)
    (hr : hasParam vp.params (str "rport") = true)
    (hg : getVia cfg.cm m = some (stampReceived vp ip port :: rest, m1)) :
    getNextResponseHop cfg m = (some { host := ip, port := port, transport := vp.transport }, m1) := by
  rw [C02_hop cfg m m1 _ rest hg, C02_pair_rport vp ip port hport hsmall hr]

/-- non-vacuity: a sender behind a NAT announces 10.0.0.1:5060 and asks for rport; the request really came from
192.0.2.7:40000 -/
def natVia : ViaParam :=
  { protoName := str "SIP", protoVersion := str "2.0", transport := str "UDP", host := str "10.0.0.1", port := 5060,
    params := [⟨str "branch", str "z9hG4bKx"⟩, ⟨str "rport", []⟩] }

attribute [fixture] natVia

example : responseHopOf (stampReceived natVia (str "192.0.2.7") 40000)
    = { host := str "192.0.2.7", port := 40000, transport := str "UDP" } :=
  C02_pair_rport natVia (str "192.0.2.7") 40000 (by decide) (by decide) (by simp only [fixture]; decide +kernel)

end Props.C02
