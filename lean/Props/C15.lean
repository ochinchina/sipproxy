/-
C15 — Dialog pins live exactly as long as promised and are forgotten on termination.

"A dialog's backend pin is honoured for at least the configured dialog timeout - or the Expires
value of the response that established it, if larger - and never after that lifetime has elapsed.
It is dissolved early when the backend answers a BYE for the dialog or a NOTIFY with
Subscription-State `terminated` passes through, after which requests bearing that dialog's
identifiers are load-balanced like new ones. Expired pins are purged as traffic continues - none
survives more than one further dialog-timeout period of ongoing traffic, whatever Expires values
messages carry - so the table of remembered pins cannot grow without bound."

Model: Side.Pins (backend.go DialogBasedBackend) with explicit time. Histories are arbitrary
sequences of add / get / remove at non-decreasing instants. (That BYE responses and
NOTIFY-terminated call `remove`, and that an unpinned dialog is load-balanced, is C04's pipeline
model; here: the table.) Wall-clock behaviour is not modelled (partial): the virtual-clock stream
`pins` and margins are the tie.
-/
import Side.Pins
import Side.Config
open GoStd Side.Pins

namespace Props.C15

inductive Op where
  | add (k : Key) (b : Backend) (expires : Int)
  | get (k : Key)
  | remove (k : Key)
  deriving Repr, DecidableEq

def step (s : St) (now : Nat) : Op → St
  | .add k b e => add s k b e now
  | .get k => (Side.Pins.get s k now).1
  | .remove k => remove s k

def run : St → List (Nat × Op) → St
  | s, [] => s
  | s, (t, op) :: h => run (step s t op) h

/-- instants are non-decreasing, ≥ `frm` and ≤ `upto` -/
def Timed (frm upto : Nat) : List (Nat × Op) → Prop
  | [] => frm ≤ upto
  | (t, _) :: h => frm ≤ t ∧ Timed t upto h

/-- the operation leaves the pin of key `k` alone (lookups are allowed) -/
def Avoids (k : Key) : Op → Prop
  | .add k' _ _ => k' ≠ k
  | .remove k' => k' ≠ k
  | .get _ => True

/-- the history never touches the pin of key `k` except by looking it up -/
def Untouched (k : Key) (h : List (Nat × Op)) : Prop := ∀ p ∈ h, Avoids k p.2

def KeysNodup (s : St) : Prop := (s.entries.map (·.key)).Nodup

theorem mem_eraseKey {es : List Entry} {k : Key} {y : Entry} : y ∈ eraseKey es k ↔ y ∈ es ∧ y.key ≠ k := by
  simp [eraseKey]

theorem mem_add {s : St} {k : Key} {b : Backend} {E : Int} {now : Nat} {y : Entry} :
    y ∈ (add s k b E now).entries ↔
      (y ∈ s.entries ∧ y.key ≠ k ∨ y = ⟨k, b, now + lifetime s.timeout E⟩) ∧ (s.nextClean < now → now ≤ y.expire) := by
  unfold add
  simp only
  split
  · next hdue =>
    simp only [List.mem_filter, List.mem_append, List.mem_singleton, mem_eraseKey, hdue, forall_const,
      Bool.not_eq_true', decide_eq_false_iff_not, Nat.not_lt]
  · next hdue => simp [mem_eraseKey, hdue]

theorem mem_of_mem_get {s : St} {k : Key} {now : Nat} {y : Entry} (h : y ∈ (Side.Pins.get s k now).1.entries) :
    y ∈ s.entries := by
  unfold Side.Pins.get at h
  split at h
  · exact h
  · split at h
    · exact h
    · exact (mem_eraseKey.mp h).1

theorem mem_step {s : St} {now : Nat} {op : Op} {y : Entry} (h : y ∈ (step s now op).entries) :
    y ∈ s.entries ∨ ∃ k b E, op = .add k b E ∧ y = ⟨k, b, now + lifetime s.timeout E⟩ := by
  cases op with
  | add k b E => exact (mem_add.mp h).1.imp And.left fun e => ⟨k, b, E, rfl, e⟩
  | get k => exact .inl (mem_of_mem_get h)
  | remove k => exact .inl (mem_eraseKey.mp h).1

def Only (s : St) (x : Entry) : Prop := x ∈ s.entries ∧ ∀ y ∈ s.entries, y.key = x.key → y = x

theorem only_step (s : St) (now : Nat) (op : Op) (x : Entry) (hx : Only s x) (hlive : now < x.expire)
    (hop : Avoids x.key op) : Only (step s now op) x := by
  refine ⟨?_, fun y hy hk => ?_⟩
  · cases op with
    | add k b E => exact mem_add.mpr ⟨.inl ⟨hx.1, Ne.symm hop⟩, fun _ => Nat.le_of_lt hlive⟩
    | remove k => exact mem_eraseKey.mpr ⟨hx.1, Ne.symm hop⟩
    | get k =>
      simp only [step, Side.Pins.get]
      split
      · exact hx.1
      · next e he =>
        split
        · exact hx.1
        · -- the lookup found an expired entry of key `k`: were `k` x's key, that entry would be `x`
          next hexp =>
          refine mem_eraseKey.mpr ⟨hx.1, fun hk => hexp ?_⟩
          rw [hx.2 e (List.mem_of_find?_eq_some he) ((by simpa using List.find?_some he : e.key = k).trans hk.symm)]
          exact hlive
  · rcases mem_step hy with hy | ⟨k, b, E, rfl, rfl⟩
    · exact hx.2 y hy hk
    · exact absurd hk hop

theorem run_induction {P : St → Prop} (h : List (Nat × Op)) (s : St) (h0 : P s)
    (hstep : ∀ s', ∀ p ∈ h, P s' → P (step s' p.1 p.2)) : P (run s h) := by
  induction h generalizing s with
  | nil => exact h0
  | cons p h ih =>
    exact ih _ (hstep s p (by simp) h0) fun s' q hq => hstep s' q (by simp [hq])

theorem Timed.le {a t : Nat} {h : List (Nat × Op)} (ht : Timed a t h) : a ≤ t ∧ ∀ p ∈ h, p.1 ≤ t := by
  induction h generalizing a with
  | nil => exact ⟨ht, fun p hp => nomatch hp⟩
  | cons q h ih =>
    obtain ⟨hq, hall⟩ := ih ht.2
    exact ⟨Nat.le_trans ht.1 hq, fun p hp => (List.mem_cons.mp hp).elim (· ▸ hq) (hall p)⟩

/-- The new entry is the only one of its key (`add` erases the key first) and stays so, so no hypothesis
on the table it was added to is needed. -/
theorem honoured_of_add (s : St) (k : Key) (b : Backend) (E : Int) (t0 t : Nat) (h : List (Nat × Op))
    (ht : Timed t0 t h) (hu : Untouched k h) (hlt : t < t0 + lifetime s.timeout E) :
    (Side.Pins.get (run (add s k b E t0) h) k t).2 = some b := by
  have h0 : Only (add s k b E t0) ⟨k, b, t0 + lifetime s.timeout E⟩ :=
    ⟨mem_add.mpr ⟨.inr rfl, fun _ => Nat.le_add_right _ _⟩,
     fun y hy hk => (mem_add.mp hy).1.elim (fun h => absurd hk h.2) id⟩
  obtain ⟨hx, huniq⟩ := run_induction (P := fun s' => Only s' ⟨k, b, t0 + lifetime s.timeout E⟩) h _ h0
    fun s' p hp hs' => only_step s' p.1 p.2 _ hs' (Nat.lt_of_le_of_lt (ht.le.2 p hp) hlt) (hu p hp)
  -- so the lookup finds it
  unfold Side.Pins.get
  split
  · next hnone => simpa using List.find?_eq_none.mp hnone _ hx
  · next e he =>
    rw [huniq e (List.mem_of_find?_eq_some he) (by simpa using List.find?_some he)]
    simp [hlt]

/-- **Honoured.** A pin added at `t0` with lifetime L = max(timeout, Expires) is returned by every
lookup strictly before `t0 + L`, whatever other pins are added, looked up, removed or swept in
between. -/
theorem C15_honoured (s : St) (k : Key) (b : Backend) (E : Int) (t0 t : Nat) (h : List (Nat × Op))
    (hnd : KeysNodup s) (ht : Timed t0 t h) (hu : Untouched k h)
    (hlt : t < t0 + lifetime s.timeout E) :
    (Side.Pins.get (run (add s k b E t0) h) k t).2 = some b := by
  have _ := hnd  -- not needed: `honoured_of_add`
  exact honoured_of_add s k b E t0 t h ht hu hlt

def Dead (s : St) (k : Key) (t : Nat) : Prop := ∀ y ∈ s.entries, y.key = k → y.expire ≤ t

theorem get_of_dead {s : St} {k : Key} {t : Nat} (h : Dead s k t) : (Side.Pins.get s k t).2 = none := by
  unfold Side.Pins.get
  split
  · rfl
  · next e he =>
    have := h e (List.mem_of_find?_eq_some he) (by simpa using List.find?_some he)
    split
    · omega
    · rfl

theorem dead_run {s : St} {k : Key} {t : Nat} (h : List (Nat × Op))
    (hu : ∀ p ∈ h, ∀ k' b' e', p.2 = Op.add k' b' e' → k' ≠ k) (h0 : Dead s k t) : Dead (run s h) k t := by
  refine run_induction (P := fun s' => Dead s' k t) h s h0 ?_
  intro s' p hp hd y hy hk
  rcases mem_step hy with hy | ⟨k', b', E', hop, rfl⟩
  · exact hd y hy hk
  · exact absurd hk (hu p hp k' b' E' hop)

/-- **Not after.** Once the lifetime has elapsed the pin is never honoured again (unless the
dialog is pinned anew): every lookup at `t ≥ t0 + L` fails. -/
theorem C15_not_after (s : St) (k : Key) (b : Backend) (E : Int) (t0 t : Nat) (h : List (Nat × Op))
    (hu : ∀ p ∈ h, ∀ k' b' e', p.2 = Op.add k' b' e' → k' ≠ k)
    (hge : t0 + lifetime s.timeout E ≤ t) :
    (Side.Pins.get (run (add s k b E t0) h) k t).2 = none := by
  refine get_of_dead (dead_run h hu ?_)
  intro y hy hk
  rcases (mem_add.mp hy).1 with ⟨-, hne⟩ | rfl
  · exact absurd hk hne
  · exact hge

/-- **Terminated.** After `remove` (BYE answered / NOTIFY terminated) the pin is gone: lookups fail
until the dialog is pinned anew, whatever else happens. -/
theorem C15_terminated (s : St) (k : Key) (t : Nat) (h : List (Nat × Op))
    (hu : ∀ p ∈ h, ∀ k' b' e', p.2 = Op.add k' b' e' → k' ≠ k) :
    (Side.Pins.get (run (remove s k) h) k t).2 = none :=
  get_of_dead (dead_run h hu fun _ hy hk => absurd hk (mem_eraseKey.mp hy).2)

/-- sweep bookkeeping invariant at instant `now` (the time of the latest operation):
the next sweep is at most one timeout away, and no stored pin expired more than one timeout
before the next sweep. -/
def SweepInv (s : St) (now : Nat) : Prop :=
  s.nextClean ≤ now + s.timeout ∧ ∀ x ∈ s.entries, s.nextClean ≤ x.expire + s.timeout

theorem sweepInv_init (timeout now : Nat) : SweepInv (init timeout now) now := by
  simp [SweepInv, init]

theorem timeout_step (s : St) (now : Nat) (op : Op) : (step s now op).timeout = s.timeout := by
  cases op with
  | add k b e => simp only [step, add]; split <;> rfl
  | get k =>
    simp only [step, Side.Pins.get]
    split
    · rfl
    · split <;> rfl
  | remove k => rfl

theorem lifetime_ge (T : Nat) (E : Int) : T ≤ lifetime T E := by
  unfold lifetime; split <;> omega

theorem nextClean_get (s : St) (k : Key) (now : Nat) : (Side.Pins.get s k now).1.nextClean = s.nextClean := by
  unfold Side.Pins.get
  split
  · rfl
  · split <;> rfl

theorem sweepInv_step (s : St) (now t : Nat) (op : Op) (h : SweepInv s now) (ht : now ≤ t) :
    SweepInv (step s t op) t := by
  obtain ⟨h1, h2⟩ := h
  -- time only moves on, so the old deadline is still at most one timeout away
  have hnow : s.nextClean ≤ t + s.timeout := Nat.le_trans h1 (Nat.add_le_add_right ht _)
  cases op with
  | add k b E =>
    have hc : (add s k b E t).nextClean = if s.nextClean < t then t + s.timeout else s.nextClean := by
      unfold add; split <;> rfl
    have hT : (add s k b E t).timeout = s.timeout := timeout_step s t (.add k b E)
    refine ⟨by rw [step, hc, hT]; split; exact Nat.le_refl _; exact hnow, ?_⟩
    intro x hx
    obtain ⟨hfrom, hswept⟩ := mem_add.mp hx
    rw [step, hc, hT]
    split
    · next hdue => exact Nat.add_le_add_right (hswept hdue) _
    · rcases hfrom with ⟨hm, -⟩ | rfl
      · exact h2 x hm
      · exact Nat.le_trans hnow (Nat.add_le_add_right (Nat.le_add_right t _) _)
  | get k =>
    show SweepInv (Side.Pins.get s k t).1 t
    have hT : (Side.Pins.get s k t).1.timeout = s.timeout := timeout_step s t (.get k)
    unfold SweepInv
    rw [nextClean_get, hT]
    exact ⟨hnow, fun x hx => h2 x (mem_of_mem_get hx)⟩
  | remove k => exact ⟨hnow, fun x hx => h2 x (mem_eraseKey.mp hx).1⟩

theorem sweepInv_run (s : St) (now : Nat) (h : List (Nat × Op)) (upto : Nat) (hi : SweepInv s now) (ht : Timed now upto h) :
    ∃ last, SweepInv (run s h) last ∧ last ≤ upto := by
  induction h generalizing s now with
  | nil => exact ⟨now, hi, ht⟩
  | cons p h ih =>
    obtain ⟨tp, op⟩ := p
    exact ih _ tp (sweepInv_step s now tp op hi ht.1) ht.2

/-- what an `add` at `t` leaves: swept if the sweep was due, else bounded by the second half of `SweepInv` -/
theorem add_purges (s : St) (t : Nat) (k : Key) (b : Backend) (E : Int)
    (h : ∀ x ∈ s.entries, s.nextClean ≤ x.expire + s.timeout) :
    ∀ x ∈ (add s k b E t).entries, ¬ (x.expire + s.timeout < t) := by
  intro x hx
  obtain ⟨hfrom, hswept⟩ := mem_add.mp hx
  refine Nat.not_lt.mpr ?_
  by_cases hdue : s.nextClean < t
  · exact Nat.le_trans (hswept hdue) (Nat.le_add_right _ _)
  · rcases hfrom with ⟨hm, -⟩ | rfl
    · exact Nat.le_trans (Nat.le_of_not_lt hdue) (h x hm)
    · exact Nat.le_trans (Nat.le_add_right t _) (Nat.le_add_right _ _)

/-- **Purged.** After any pin is added at instant `t`, no pin whose lifetime ended more than one
dialog timeout before `t` is left in the table - whatever Expires values any message carried. -/
theorem C15_purged (s : St) (now t : Nat) (k : Key) (b : Backend) (E : Int) (h : SweepInv s now) (ht : now ≤ t) :
    ∀ x ∈ (add s k b E t).entries, ¬ (x.expire + s.timeout < t) := by
  have _ := ht  -- not needed, nor the first half of `h`: `add_purges`
  exact add_purges s t k b E h.2

/-- the lifetime is the larger of the configured timeout and the Expires value -/
theorem C15_lifetime (T : Nat) (E : Int) :
    lifetime T E = max T (E.toNat * second) := by
  unfold lifetime
  split
  · rename_i h; omega
  · rename_i h
    by_cases hE : E > 0
    · have : ¬ (E.toNat * second > T) := fun hh => h ⟨hE, hh⟩
      omega
    · have : E.toNat = 0 := by omega
      simp [this]

example : KeysNodup (init 5 0) ∧ SweepInv (init 5 0) 0 := by
  exact ⟨by simp [KeysNodup, init], sweepInv_init 5 0⟩
example : (Side.Pins.get (add (init 5 0) [1] [2] 0 3) [1] 7).2 = some [2] ∧ (Side.Pins.get (add (init 5 0) [1] [2] 0 3) [1] 8).2 = none := by
  decide +kernel

/-! ### "the configured dialog timeout": which number that is (main.go start-up, Side.Config)

The `timeout` of the table above is fixed once, at start-up. Stream `cfg deftimeout` runs the real
`getDefaultDialogTimeout` against `Side.Config.defaultDialogTimeout`; `Expected.K15` pins the two lines
of `startProxy` that apply it; the `wire` stage starts whole configurations (two services, a service
setting against the environment). -/

/-- A service that configures a positive `dialogTimeout` gets exactly that, whatever the environment says. -/
theorem C15_configured_timeout_wins (configured : Int) (h : 0 < configured) (env : Option Bytes) :
    Side.Config.dialogTimeout configured env = configured := by
  unfold Side.Config.dialogTimeout
  have : ¬ configured ≤ 0 := by omega
  simp [this]

/-- Without a setting of its own and without the environment variable a service gets 1200 s. -/
theorem C15_default_timeout (configured : Int) (h : configured ≤ 0) :
    Side.Config.dialogTimeout configured none = 1200 := by
  simp [Side.Config.dialogTimeout, h, Side.Config.defaultDialogTimeout]

/-- The environment fills in only for a service without a setting: then the value `strconv.Atoi` reads from it,
and 1200 when it is not a number. -/
theorem C15_environment_fills_in (configured : Int) (h : configured ≤ 0) (v : Bytes) :
    Side.Config.dialogTimeout configured (some v) = (atoi v).getD 1200 := by
  simp [Side.Config.dialogTimeout, h, Side.Config.defaultDialogTimeout]

/-- The timeout of one service is a function of that service's setting and the environment alone: whatever was
resolved for the service listed before it plays no part (there is no state to carry it). -/
theorem C15_timeout_per_service (c1 c2 : Int) (env : Option Bytes) (h : 0 < c2) :
    (Side.Config.dialogTimeout c1 env, Side.Config.dialogTimeout c2 env).2 = c2 :=
  C15_configured_timeout_wins c2 h env

example : Side.Config.dialogTimeout 1 (some [54, 48, 48]) = 1 := by decide                -- yaml 1, env "600"
example : Side.Config.dialogTimeout 0 (some [54, 48, 48]) = 600 := by decide +kernel      -- no setting, env "600"
example : Side.Config.dialogTimeout 0 (some [49, 50, 115]) = 1200 := by decide +kernel    -- no setting, env "12s"

end Props.C15
