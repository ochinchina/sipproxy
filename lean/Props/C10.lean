/-
C10 — A UDP datagram is processed in isolation from every other datagram.

"What the proxy relays for a UDP datagram is a function of that datagram's bytes alone: it never
contains bytes of any datagram received earlier or later, whatever the arrival order, sizes,
declared Content-Length, truncation or load. A datagram whose declared body length exceeds the
bytes it actually carries, or that ends before its header section is complete, is discarded rather
than completed from elsewhere."

Model: Reader.Frame.udpParse (the parse step is built over the first `n` bytes of the pooled
buffer, `n` = what ReadFromUDP returned), Sip.parseMessage, Side.Pool (byte_array_pool.go).
Three parts:
 * locality — the decoded message depends on `buf[0:n]` only (`C10_local`), so whatever an earlier
   datagram left in a recycled buffer behind position `n` is invisible (`C10_stale_invisible`),
   and everything decoded fits inside the datagram (`C10_within_datagram`);
 * discard — over-declared Content-Length (`C10_overdeclared`) and header sections cut short
   (`C10_truncated`, `C10_truncated_no_lf`, `C10_truncated_after_lines`) give `.error`/`none`:
   nothing is taken "from elsewhere";
 * the pool never hands a buffer that is still held to a second holder (`C10_pool_exclusive`).
That the decoded message owns copies and not slices of the buffer is outside this model (it is
checked by the dirty-vs-clean differential stream).
-/
import Reader.Frame
import Side.Pool
import Lemmas.Message
import Props.C11
open GoStd Sip Reader Lemmas

namespace Props.C10

/-- The decoded message is a function of the first `n` bytes of the buffer alone. -/
theorem C10_local (cm : List (Bytes × Bytes)) (buf buf' : Bytes) (n : Nat)
    (h : buf.take n = buf'.take n) : udpParse cm buf n = udpParse cm buf' n := by
  simp only [udpParse, h]

/-- A recycled buffer: whatever earlier datagrams left behind the `d.length` bytes just received
(`stale`, `stale'`) does not influence the result. -/
theorem C10_stale_invisible (cm : List (Bytes × Bytes)) (d stale stale' : Bytes) :
    udpParse cm (d ++ stale) d.length = udpParse cm (d ++ stale') d.length :=
  C10_local cm _ _ _ (by simp)

/-- … and it is what a fresh buffer holding exactly the datagram would give. -/
theorem C10_stale_invisible_fresh (cm : List (Bytes × Bytes)) (d stale : Bytes) :
    udpParse cm (d ++ stale) d.length = udpParse cm d d.length := by
  have := C10_stale_invisible cm d stale []
  simpa using this

/-! ### the same for the reader the parse loop really builds (operational `bufio.Reader`, Reader/Bufio.lean)

`startParseMessage` builds `bufio.NewReaderSize(bytes.NewBuffer(b[:n]), n)`: a reader of capacity `max n 16` over a
source that delivers the datagram's `n` bytes (`Props.C11.fresh [buf.take n]`). `Props.C11.C11_bufio_udp` shows that
`ParseMessage` on that reader is `udpParse`; so locality holds for the real mechanics too, not only for the
logical-stream model. -/

/-- the message decoded through the operational reader is a function of the datagram's own bytes -/
theorem C10_bufio_local (cm : List (Bytes × Bytes)) (buf buf' : Bytes) (n : Nat)
    (h : buf.take n = buf'.take n) :
    (Bufio.parseMessage (max n 16) cm (Props.C11.fresh [buf.take n])).map (·.1)
      = (Bufio.parseMessage (max n 16) cm (Props.C11.fresh [buf'.take n])).map (·.1) := by
  rw [h]

/-- stale bytes behind the datagram are invisible to the operational reader as well: it decodes what a fresh buffer
holding exactly the datagram would give -/
theorem C10_bufio_stale_invisible (cm : List (Bytes × Bytes)) (d stale : Bytes) :
    (Bufio.parseMessage (max d.length 16) cm (Props.C11.fresh [(d ++ stale).take d.length])).map (·.1)
      = udpParse cm d d.length := by
  rw [Props.C11.C11_bufio_udp cm (d ++ stale) d.length]
  exact C10_stale_invisible_fresh cm d stale

/-- Everything decoded fits inside the datagram: headers and body together are shorter than the
`n` bytes received (nothing can have been completed from bytes behind position `n`). -/
theorem C10_within_datagram (cm : List (Bytes × Bytes)) (buf : Bytes) (n : Nat) (m : Message)
    (h : udpParse cm buf n = some m) : m.headers.length + m.body.length + 2 ≤ n := by
  unfold udpParse at h
  cases hp : parseMessage cm (buf.take n) with
  | error => simp [hp] at h
  | ok m' rest =>
    simp only [hp, Option.some.injEq] at h
    subst h
    have := parseMessage_size cm _ m' rest hp
    have hl := List.length_take_le n buf
    omega

/-- **Over-declared body.** The header section is complete (start line, header lines, blank line),
the first Content-Length-class header declares `k`, but fewer than `k` bytes follow the blank
line: the datagram is rejected. No bound on `k` (a `k` beyond int64 is rejected by Atoi). -/
theorem C10_overdeclared (cm : List (Bytes × Bytes)) (eol start : Bytes)
    (hs : List (Bytes × Bytes)) (heol : EolOK eol) (hst : StartOK start)
    (hhs : ∀ h ∈ hs, HeaderOK h) (k : Nat)
    (hcl : firstValue cm hs contentLengthName = some (natToBytes k))
    (short : Bytes) (hshort : short.length < k) :
    parseMessage cm (start ++ eol ++ renderHeaders eol hs ++ eol ++ short) = .error := by
  rw [parseMessage_render_gen cm eol start hs heol hst hhs, hcl]
  cases parseStartLine start with
  | none => rfl
  | some sl =>
    by_cases hk : k ≤ 9223372036854775807
    · have h2 : short.length < (Int.ofNat k).toNat := by simpa using hshort
      simp only [Option.bind_some, atoi_natToBytes k hk, h2, ↓reduceIte]
      split <;> rfl
    · simp only [Option.bind_some, atoi_natToBytes_eq, if_neg hk]

/-- the same through the UDP step, with stale bytes behind the datagram in the pooled buffer: the
datagram is discarded (not completed from `stale`) -/
theorem C10_overdeclared_udp (cm : List (Bytes × Bytes)) (eol start : Bytes)
    (hs : List (Bytes × Bytes)) (heol : EolOK eol) (hst : StartOK start)
    (hhs : ∀ h ∈ hs, HeaderOK h) (k : Nat)
    (hcl : firstValue cm hs contentLengthName = some (natToBytes k))
    (short : Bytes) (hshort : short.length < k) (stale : Bytes) :
    udpParse cm ((start ++ eol ++ renderHeaders eol hs ++ eol ++ short) ++ stale)
      (start ++ eol ++ renderHeaders eol hs ++ eol ++ short).length = none := by
  rw [C10_stale_invisible_fresh, udpParse, List.take_length,
    C10_overdeclared cm eol start hs heol hst hhs k hcl short hshort]

/-- Truncation, the crudest form (no shape assumed at all): a datagram that contains no LF whatsoever
is rejected. -/
theorem C10_truncated_no_lf (cm : List (Bytes × Bytes)) (d : Bytes) (h : (10 : UInt8) ∉ d) :
    parseMessage cm d = .error :=
  parseMessage_no_lf_skip cm d fun hm => h ((List.dropWhile_suffix isWhiteSpace).subset hm)

/-- Truncation behind complete lines: start line, any number of complete header lines, then an arbitrary
LF-free fragment (not necessarily a prefix of a well-formed header line). -/
theorem C10_truncated_after_lines (cm : List (Bytes × Bytes)) (eol start : Bytes)
    (hs : List (Bytes × Bytes)) (heol : EolOK eol) (hst : StartOK start)
    (hhs : ∀ h ∈ hs, HeaderOK h) (part : Bytes) (hpart : (10 : UInt8) ∉ part) :
    parseMessage cm (start ++ eol ++ (renderHeaders eol hs ++ part)) = .error := by
  rw [parseMessage_start cm eol start heol hst, parseHeaderLines_truncated eol heol hs hhs part hpart]
  cases parseStartLine start <;> rfl

/-- **Truncated header section**: the datagram is ANY strict truncation of a well-formed
message's header section — the first `n` bytes of `render eol start hs body` with `n` smaller than
the length of start line + header lines + blank line (so the cut may fall inside the start line,
inside or between header lines, or inside the final CRLF). Every such datagram is rejected. Only
the shape of start line and headers is assumed (no Content-Length condition, the start line need
not even parse). A cut inside the start line leaves no LF; a later one leaves complete lines and an
LF-free fragment (`take_renderHeaders`): the two theorems above. -/
theorem C10_truncated (cm : List (Bytes × Bytes)) (eol start : Bytes)
    (hs : List (Bytes × Bytes)) (body : Bytes) (heol : EolOK eol) (hst : StartOK start)
    (hhs : ∀ h ∈ hs, HeaderOK h) (n : Nat)
    (hn : n < (start ++ eol ++ renderHeaders eol hs ++ eol).length) :
    parseMessage cm ((render eol start hs body).take n) = .error := by
  have hshape : render eol start hs body = (start ++ eol) ++ (renderHeaders eol hs ++ eol ++ body) := by
    simp [render, List.append_assoc]
  rw [hshape, List.take_append]
  by_cases hlt : n < (start ++ eol).length
  · rw [show n - (start ++ eol).length = 0 by omega, List.take_zero, List.append_nil]
    exact C10_truncated_no_lf cm _ (not_mem_take_line start eol heol hst.lf n hlt)
  · obtain ⟨hs', part, he, hsub, hp⟩ := take_renderHeaders eol heol hs hhs body
      (n - (start ++ eol).length) (by simp only [List.length_append] at hn hlt ⊢; omega)
    rw [List.take_of_length_le (by omega), he]
    exact C10_truncated_after_lines cm eol start hs' heol hst (fun h hh => hhs h (hsub hh)) part hp

/-- … through the UDP step: a datagram of `n` bytes cut out of a longer message, whatever lies
behind it in the buffer (here: the remainder of that very message), is discarded. -/
theorem C10_truncated_udp (cm : List (Bytes × Bytes)) (eol start : Bytes)
    (hs : List (Bytes × Bytes)) (body : Bytes) (heol : EolOK eol) (hst : StartOK start)
    (hhs : ∀ h ∈ hs, HeaderOK h) (n : Nat)
    (hn : n < (start ++ eol ++ renderHeaders eol hs ++ eol).length) :
    udpParse cm (render eol start hs body) n = none := by
  simp [udpParse, C10_truncated cm eol start hs body heol hst hhs n hn]

open Side.Pool

inductive Op where
  | alloc
  | free (b : BufId)

/-- pool state plus the buffers currently held by clients (receive loop, parse queue, parse loop) -/
structure Sys where
  st : St
  held : List BufId

/-- one operation; `none` = the history violates the client discipline (frees a buffer it does
not hold) -/
def step (s : Sys) : Op → Option Sys
  | .alloc => some ⟨(alloc s.st).1, (alloc s.st).2 :: s.held⟩
  | .free b => if b ∈ s.held then some ⟨free s.st b, s.held.erase b⟩ else none

def run : Sys → List Op → Option Sys
  | s, [] => some s
  | s, op :: ops =>
    match step s op with
    | none => none
    | some s' => run s' ops

def init (cap : Nat) : Sys := ⟨⟨cap, [], 0⟩, []⟩

structure Inv (s : Sys) : Prop where
  pool_nodup : s.st.pool.Nodup
  held_nodup : s.held.Nodup
  disjoint : ∀ b ∈ s.st.pool, b ∉ s.held
  below : ∀ b ∈ s.st.pool ++ s.held, b < s.st.fresh

theorem inv_init (cap : Nat) : Inv (init cap) :=
  ⟨by simp [init], by simp [init], by simp [init], by simp [init]⟩

theorem inv_iff (s : Sys) :
    Inv s ↔ (s.st.pool ++ s.held).Nodup ∧ ∀ b ∈ s.st.pool ++ s.held, b < s.st.fresh := by
  constructor
  · rintro ⟨h1, h2, h3, h4⟩
    exact ⟨List.nodup_append.mpr ⟨h1, h2, fun a ha b hb e => h3 a ha (e ▸ hb)⟩, h4⟩
  · rintro ⟨h, h4⟩
    obtain ⟨h1, h2, h3⟩ := List.nodup_append.mp h
    exact ⟨h1, h2, fun b hb hm => h3 b hb b hm rfl, h4⟩

theorem inv_alloc (s : Sys) (h : Inv s) :
    (alloc s.st).2 ∉ s.held ∧ Inv ⟨(alloc s.st).1, (alloc s.st).2 :: s.held⟩ := by
  rw [inv_iff] at h ⊢
  obtain ⟨hn, hlt⟩ := h
  unfold alloc
  cases hl : s.st.pool.getLast? with
  | none =>
    -- a new buffer: its identity is above everything made so far
    have hnot : s.st.fresh ∉ s.st.pool ++ s.held := fun hm => Nat.lt_irrefl _ (hlt _ hm)
    refine ⟨fun hm => hnot (by simp [hm]), (List.perm_middle.nodup_iff).mpr (List.nodup_cons.mpr ⟨hnot, hn⟩),
      fun b hb => ?_⟩
    rcases List.mem_cons.mp ((List.perm_middle.mem_iff).mp hb) with rfl | hb
    · exact Nat.lt_succ_self _
    · exact Nat.lt_succ_of_lt (hlt b hb)
  | some b =>
    -- the top of the stack moves from the pool to the holders: the same buffers as before
    obtain ⟨ys, hys⟩ := List.getLast?_eq_some_iff.mp hl
    have hp : (ys ++ b :: s.held).Perm (s.st.pool ++ s.held) := by rw [hys]; simp
    simp only [hys, List.dropLast_concat]
    refine ⟨fun hm => ?_, hp.nodup_iff.mpr hn, fun x hx => hlt x (hp.mem_iff.mp hx)⟩
    rw [hys] at hn
    exact (List.nodup_append.mp hn).2.2 b (by simp) b hm rfl

theorem inv_free (s : Sys) (b : BufId) (h : Inv s) (hb : b ∈ s.held) :
    Inv ⟨free s.st b, s.held.erase b⟩ := by
  rw [inv_iff] at h ⊢
  obtain ⟨hn, hlt⟩ := h
  have hsub : (s.st.pool ++ s.held.erase b).Sublist (s.st.pool ++ s.held) :=
    List.Sublist.append_left (List.erase_sublist) _
  unfold free
  simp only
  split
  · -- kept: the buffer moves from the holders back to the pool
    have hp : (s.st.pool ++ [b] ++ s.held.erase b).Perm (s.st.pool ++ s.held) := by
      rw [List.append_assoc]
      exact List.Perm.append_left _ (List.perm_cons_erase hb).symm
    exact ⟨hp.nodup_iff.mpr hn, fun x hx => hlt x (hp.mem_iff.mp hx)⟩
  · exact ⟨hn.sublist hsub, fun x hx => hlt x (hsub.subset hx)⟩

theorem inv_step (s s' : Sys) (op : Op) (h : Inv s) (hs : step s op = some s') : Inv s' := by
  cases op with
  | alloc =>
    simp only [step, Option.some.injEq] at hs
    subst hs
    exact (inv_alloc s h).2
  | free b =>
    simp only [step] at hs
    split at hs
    · rename_i hb
      simp only [Option.some.injEq] at hs
      subst hs
      exact inv_free s b h hb
    · cases hs

/-- the invariant `pool.Nodup ∧ held.Nodup ∧ pool ∩ held = ∅ ∧ everything < fresh` is preserved
by every history in which clients free only buffers they hold -/
theorem C10_pool_invariant (s s' : Sys) (ops : List Op) (h : Inv s) (hr : run s ops = some s') :
    Inv s' := by
  induction ops generalizing s with
  | nil =>
    simp only [run, Option.some.injEq] at hr
    exact hr ▸ h
  | cons op ops ih =>
    simp only [run] at hr
    cases hst : step s op with
    | none => simp [hst] at hr
    | some s1 =>
      simp only [hst] at hr
      exact ih s1 (inv_step s s1 op h hst) hr

/-- **The pool never hands one buffer to two holders**: after any disciplined history starting
from the empty pool, `Alloc` returns a buffer that no client currently holds. -/
theorem C10_pool_exclusive (cap : Nat) (ops : List Op) (s : Sys) (hr : run (init cap) ops = some s) :
    (alloc s.st).2 ∉ s.held :=
  (inv_alloc s (C10_pool_invariant _ s ops (inv_init cap) hr)).1

/-- hence no buffer is ever held twice, and no held buffer sits in the pool -/
theorem C10_pool_held_distinct (cap : Nat) (ops : List Op) (s : Sys)
    (hr : run (init cap) ops = some s) : s.held.Nodup ∧ ∀ b ∈ s.st.pool, b ∉ s.held :=
  let h := C10_pool_invariant _ s ops (inv_init cap) hr
  ⟨h.held_nodup, h.disjoint⟩

/-- The discipline matters: a double free puts the buffer in the pool while it is handed out again,
and the next two `Alloc`s return the SAME buffer. -/
example :
    let s := free (free (alloc ⟨4, [], 0⟩).1 0) 0
    (alloc s).2 = 0 ∧ (alloc (alloc s).1).2 = 0 := by decide +kernel

/-- a disciplined history with recycling in both orders -/
example :
    (run (init 2) [.alloc, .alloc, .free 0, .alloc, .free 1, .free 0, .alloc, .alloc]).map
      (fun s => (s.held, s.st.pool, s.st.fresh)) = some ([1, 0], [], 2) := by decide +kernel

example : run (init 2) [.alloc, .free 0, .free 0] = none := by decide +kernel

example (cm : List (Bytes × Bytes)) : udpParse cm [1, 2, 3, 4] 2 = udpParse cm [1, 2, 9, 9, 9] 2 :=
  C10_local cm _ _ _ (by decide)

/-- the example datagram: `SIP/2.0 200 OK`, `Content-Length: 2`, body `hi` -/
def exampleDatagram : Bytes :=
  render [13, 10] [83, 73, 80, 47, 50, 46, 48, 32, 50, 48, 48, 32, 79, 75]
    [(contentLengthName, [50])] [104, 105]

attribute [fixture] exampleDatagram

/-- a well-formed datagram in a dirty buffer IS decoded (so `C10_within_datagram` is not vacuous),
to exactly its own content, whatever the stale bytes are and whatever the compact table -/
theorem example_decoded (cm : List (Bytes × Bytes)) (stale : Bytes) :
    udpParse cm (exampleDatagram ++ stale) exampleDatagram.length
      = some ⟨.status [83, 73, 80, 47, 50, 46, 48] 200 [79, 75],
              [⟨contentLengthName, .raw [50]⟩], [104, 105]⟩ := by
  have hp := parse_render cm _ _ _ _ _ (Or.inl rfl) (wf_example_status cm) []
  rw [List.append_nil] at hp
  rw [C10_stale_invisible_fresh, udpParse, List.take_length, exampleDatagram, hp]
  rfl

example (cm : List (Bytes × Bytes)) (stale : Bytes) : 1 + 2 + 2 ≤ exampleDatagram.length :=
  C10_within_datagram cm _ _ _ (example_decoded cm stale)

/-- over-declared: `Content-Length: 5`, two body bytes, any compact table -/
example (cm : List (Bytes × Bytes)) :
    parseMessage cm ([83, 73, 80, 47, 50, 46, 48, 32, 50, 48, 48, 32, 79, 75] ++ [13, 10]
      ++ renderHeaders [13, 10] [(contentLengthName, [53])] ++ [13, 10] ++ [104, 105]) = .error :=
  C10_overdeclared cm _ _ _ (Or.inl rfl) (wf_example_status cm).start_ok
    (fun _ hh => List.mem_singleton.mp hh ▸ contentLength_headerOK 5)
    5 (firstValue_cons_self cm _ _ _) _ (by decide)

/-- truncated: the example message (37 bytes of header section) cut after 20 bytes -/
example (cm : List (Bytes × Bytes)) :
    parseMessage cm ((render [13, 10] [83, 73, 80, 47, 50, 46, 48, 32, 50, 48, 48, 32, 79, 75]
      [(contentLengthName, [50])] [104, 105]).take 20) = .error :=
  C10_truncated cm _ _ _ _ (Or.inl rfl) (wf_example_status cm).start_ok
    (wf_example_status cm).headers_ok 20 (by rw [contentLengthName_eq]; decide +kernel)

end Props.C10
