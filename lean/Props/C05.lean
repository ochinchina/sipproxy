/-
C05 — Unpinned requests rotate evenly over the backends registered right now.

"Requests not pinned to a dialog are spread over the service's current backends in strict
rotation: between two changes of the backend set any k consecutive dispatches over k backends
reach each backend exactly once, so after N dispatches every backend has received floor(N/k) or
ceil(N/k). A dispatch always goes to a backend registered at that moment, a removed backend
receives nothing further, an added one joins the rotation, and with no backend registered the
request is dropped without disturbing the proxy."

Model: Side.RoundRobin (backend.go RoundRobinBackend). All statements are for every state
(any cursor value, any list), not only reachable ones, unless a hypothesis says otherwise.
-/
import Side.RoundRobin
import Spec.Side
import Lemmas.RoundRobin
open GoStd Side.RR

namespace Props.C05

/-- **Two consecutive dispatches over two or more backends never reach the same backend** (no change
of the backend set in between). This is what makes the `destdiffers` oracle of the pipeline and wire
stages sound: requests that are bound to no backend are load-balanced, so two of them in a row go to
two different backends; the same destination twice means a binding is being honoured. -/
theorem C05_consecutive_distinct (s : St) (hnd : s.backends.Nodup) (h2 : 2 ≤ s.backends.length) :
    (dispatch s).2 ≠ (dispatch (dispatch s).1).2 := by
  have hne : s.backends ≠ [] := by intro e; rw [e] at h2; simp at h2
  rw [Lemmas.RR.dispatch_eq s hne,
    Lemmas.RR.dispatch_eq _ (show ({ s with index := (s.index + 1) % s.backends.length } : St).backends ≠ [] from hne)]
  simp only
  rw [Nat.mod_add_mod]
  exact (Lemmas.RR.rotate_ne hnd (s.index + 1) 1 Nat.one_pos h2).symm

/-- A dispatch always goes to a backend registered at that moment. -/
theorem C05_member (s s' : St) (a : Addr) (h : dispatch s = (s', some a)) : a ∈ s.backends := by
  by_cases hb : s.backends = []
  · simp [dispatch, nextIndex, hb] at h
  · rw [Lemmas.RR.dispatch_eq s hb] at h
    simp only [Prod.mk.injEq] at h
    exact List.mem_of_getElem? h.2

/-- With no backend registered the request is dropped and the state is untouched. -/
theorem C05_empty_drops (s : St) (h : s.backends = []) : dispatch s = (s, none) :=
  Lemmas.RR.dispatch_nil s h

/-- With at least one backend registered the request is never dropped. -/
theorem C05_nonempty_sends (s : St) (h : s.backends ≠ []) : ∃ a, (dispatch s).2 = some a := by
  rw [Lemmas.RR.dispatch_eq s h]
  have hn : 0 < s.backends.length := List.length_pos_iff.mpr h
  exact ⟨s.backends[(s.index + 1) % s.backends.length]'(Nat.mod_lt _ hn), by simp [Nat.mod_lt _ hn]⟩

theorem dispatch_backends (s : St) : (dispatch s).1.backends = s.backends ∧ (dispatch s).1.keys = s.keys := by
  by_cases hb : s.backends = []
  · simp [C05_empty_drops s hb]
  · simp [Lemmas.RR.dispatch_eq s hb]

theorem dispatchN_targets (n : Nat) (s : St) (h : s.backends ≠ []) :
    (dispatchN n s).2 = (List.range n).map (fun j => s.backends[(s.index + 1 + j) % s.backends.length]?) := by
  induction n generalizing s with
  | zero => simp [dispatchN]
  | succ n ih =>
    have h' : ({ s with index := (s.index + 1) % s.backends.length } : St).backends ≠ [] := h
    simp only [dispatchN, Lemmas.RR.dispatch_eq s h, ih _ h', List.range_succ_eq_map, List.map_cons, List.map_map]
    congr 1
    apply List.map_congr_left
    intro j _
    simp only [Function.comp]
    rw [Nat.add_assoc, Nat.add_assoc, Nat.mod_add_mod, Nat.add_assoc, Nat.add_comm 1 j]

/-- Between two changes of the backend set any k consecutive dispatches over k (distinct)
backends reach each backend exactly once — from ANY cursor position. -/
theorem C05_window_perm (s : St) (hne : s.backends ≠ []) :
    ((dispatchN s.backends.length s).2.filterMap id).Perm s.backends := by
  rw [dispatchN_targets s.backends.length s hne]
  exact Lemmas.RR.cyclic_window_perm s.backends (s.index + 1)

def targetsN (n : Nat) (s : St) : List Addr := (dispatchN n s).2.filterMap id

theorem dispatchN_add (m n : Nat) (s : St) :
    dispatchN (m + n) s = ((dispatchN n (dispatchN m s).1).1, (dispatchN m s).2 ++ (dispatchN n (dispatchN m s).1).2) := by
  induction m generalizing s with
  | zero => simp [dispatchN]
  | succ m ih =>
    rw [Nat.add_right_comm]
    simp only [dispatchN]
    rw [ih]
    simp

theorem dispatchN_backends (n : Nat) (s : St) : (dispatchN n s).1.backends = s.backends := by
  induction n generalizing s with
  | zero => simp [dispatchN]
  | succ n ih =>
    simp only [dispatchN]
    rw [ih]
    exact (dispatch_backends s).1

theorem targetsN_add (m n : Nat) (s : St) :
    targetsN (m + n) s = targetsN m s ++ targetsN n (dispatchN m s).1 := by
  simp [targetsN, dispatchN_add, List.filterMap_append]

theorem count_window (s : St) (hnd : s.backends.Nodup) (a : Addr) (ha : a ∈ s.backends) :
    (targetsN s.backends.length s).count a = 1 := by
  have hne : s.backends ≠ [] := List.ne_nil_of_mem ha
  have hp := C05_window_perm s hne
  unfold targetsN
  rw [hp.count_eq]
  rw [hnd.count, if_pos ha]

theorem count_partial (s : St) (hnd : s.backends.Nodup) (a : Addr) (r : Nat) (hr : r ≤ s.backends.length) :
    (targetsN r s).count a ≤ 1 := by
  by_cases hne : s.backends = []
  · have : r = 0 := by simp [hne] at hr; exact hr
    subst this
    simp [targetsN, dispatchN]
  · -- the first `r` targets are the beginning of a full window, which has no duplicates
    have hnd' : (targetsN s.backends.length s).Nodup := (C05_window_perm s hne).nodup_iff.mpr hnd
    rw [← Nat.add_sub_cancel' hr, targetsN_add] at hnd'
    exact List.nodup_iff_count.mp (List.nodup_append.mp hnd').1 a

theorem count_blocks (q : Nat) (s : St) (hnd : s.backends.Nodup) (a : Addr) (ha : a ∈ s.backends) :
    (targetsN (q * s.backends.length) s).count a = q := by
  induction q generalizing s with
  | zero => simp [targetsN, dispatchN]
  | succ q ih =>
    -- `q` full windows, then one more from the state they lead to, which has the same backends
    have hb := dispatchN_backends (q * s.backends.length) s
    have hw := count_window (dispatchN (q * s.backends.length) s).1 (hb.symm ▸ hnd) a (hb.symm ▸ ha)
    rw [hb] at hw
    rw [Nat.succ_mul, targetsN_add, List.count_append, ih s hnd ha, hw]

/-- After N dispatches (no membership change in between) over k distinct backends every backend
has received ⌊N/k⌋ or ⌊N/k⌋+1 (= ⌈N/k⌉ when k ∤ N) requests. -/
theorem C05_counts (N : Nat) (s : St) (hnd : s.backends.Nodup) (a : Addr) (ha : a ∈ s.backends) :
    (targetsN N s).count a = N / s.backends.length ∨ (targetsN N s).count a = N / s.backends.length + 1 := by
  have hk : 0 < s.backends.length := List.length_pos_of_mem ha
  have hN : N = (N / s.backends.length) * s.backends.length + N % s.backends.length :=
    (Nat.div_add_mod' N s.backends.length).symm
  have hb := dispatchN_backends ((N / s.backends.length) * s.backends.length) s
  have hpart := count_partial (dispatchN ((N / s.backends.length) * s.backends.length) s).1 (by rw [hb]; exact hnd) a
      (N % s.backends.length) (by rw [hb]; exact Nat.le_of_lt (Nat.mod_lt _ hk))
  have hcnt : (targetsN N s).count a = N / s.backends.length +
      (targetsN (N % s.backends.length) (dispatchN ((N / s.backends.length) * s.backends.length) s).1).count a := by
    conv => lhs; rw [hN]
    rw [targetsN_add, List.count_append, count_blocks _ s hnd a ha]
  omega

/-- list and map agree and the list has no duplicates (true of every state reached by histories
that never add an address already present). -/
def WF (s : St) : Prop := s.backends.Nodup ∧ s.keys.Nodup ∧ ∀ a, a ∈ s.keys ↔ a ∈ s.backends

theorem wf_init : WF {} := by simp [WF]

theorem wf_add (s : St) (a : Addr) (h : WF s) (ha : a ∉ s.backends) : WF (add s a) :=
  ⟨Lemmas.RR.nodup_snoc h.1 ha, Lemmas.RR.SameMembers.add h.2 ha⟩

theorem wf_remove (s : St) (a : Addr) (h : WF s) : WF (remove s a).1 := by
  unfold remove
  split
  · exact ⟨h.1.erase a, Lemmas.RR.SameMembers.erase a h.2 h.1⟩
  · exact h

theorem wf_dispatch (s : St) (h : WF s) : WF (dispatch s).1 := by
  obtain ⟨h1, h2⟩ := dispatch_backends s
  unfold WF
  rw [h1, h2]
  exact h

/-- A removed backend is no longer in the list (so, by `C05_member`, receives nothing further
until it is added again); every other member stays. -/
theorem C05_removed_gone (s : St) (a : Addr) (h : WF s) :
    a ∉ (remove s a).1.backends ∧ ∀ b, b ≠ a → (b ∈ (remove s a).1.backends ↔ b ∈ s.backends) := by
  unfold remove
  split
  · exact ⟨h.1.not_mem_erase, fun b hb => h.1.mem_erase_iff.trans (and_iff_right hb)⟩
  · next hc => exact ⟨fun m => hc (List.contains_iff_mem.mpr ((h.2.2 a).mpr m)), fun b _ => Iff.rfl⟩

/-- An added backend joins the rotation (and nothing else changes). -/
theorem C05_added_joins (s : St) (a : Addr) : ∀ b, b ∈ (add s a).backends ↔ (b ∈ s.backends ∨ b = a) := by
  intro b; simp [add]

def opOk (s : St) : Op → Prop
  | .add a => a ∉ s.backends
  | _ => True

def opsOk : St → List Op → Prop
  | _, [] => True
  | s, op :: ops => opOk s op ∧ opsOk (step s op).1 ops

theorem wf_step (s : St) (op : Op) (h : WF s) (hop : opOk s op) : WF (step s op).1 := by
  cases op with
  | add a => exact wf_add s a h hop
  | remove a => exact wf_remove s a h
  | dispatch => exact wf_dispatch s h

theorem wf_run (s : St) (ops : List Op) (h : WF s) (hops : opsOk s ops) : WF (run s ops).1 := by
  induction ops generalizing s with
  | nil => simpa [run] using h
  | cons op ops ih =>
    simp only [run]
    exact ih _ (wf_step s op h hops.1) hops.2

/-- the i-th output of a run is that of the i-th operation, in the state the operations before it lead to -/
theorem run_getElem? (s : St) (ops : List Op) (i : Nat) :
    (run s ops).2[i]? = ops[i]?.map fun op => (step (run s (ops.take i)).1 op).2 := by
  induction ops generalizing s i with
  | nil => rfl
  | cons op ops ih =>
    cases i with
    | zero => rfl
    | succ i => exact ih (step s op).1 i

/-- Every target of every well-formed history is a backend registered at that moment:
stated on the whole run by pairing each output with the state it was produced from. -/
theorem C05_run_member (s : St) (ops : List Op) (i : Nat) (a : Addr)
    (h : (run s ops).2[i]? = some (some a)) :
    ∃ pre op, ops.take i = pre ∧ ops[i]? = some op ∧ a ∈ (run s pre).1.backends := by
  rw [run_getElem?] at h
  obtain ⟨op, hop, ho⟩ := Option.map_eq_some_iff.mp h
  refine ⟨_, op, rfl, hop, ?_⟩
  cases op with
  | add x => cases ho
  | remove x => cases ho
  | dispatch => exact C05_member _ _ a (Prod.ext rfl ho)

/-- Whatever membership changes other threads make between `getNextBackendIndex`, `getBackendCount`
and `getBackend`, the backend finally picked (step 3, under the lock) is a member of the list as it
is AT THAT MOMENT, and nothing is picked only when the list is empty at that moment. -/
theorem C05_racing (s3 : St) (i : Nat) :
    (getBackend s3 i = none ∧ s3.backends = []) ∨ (∃ a, getBackend s3 i = some a ∧ a ∈ s3.backends) := by
  unfold getBackend
  by_cases hb : s3.backends = []
  · left; simp [hb]
  · right
    have hk : 0 < s3.backends.length := List.length_pos_iff.mpr hb
    have hn : s3.backends.length ≠ 0 := by omega
    refine ⟨s3.backends[i % s3.backends.length]'(Nat.mod_lt _ hk), ?_, List.getElem_mem _⟩
    simp [hn, Nat.mod_lt _ hk]

example : WF { index := 2, backends := [[97], [98], [99]], keys := [[99], [97], [98]] } :=
  ⟨by decide +kernel, by decide +kernel, fun _ => (List.isPerm_iff.mp (by decide +kernel)).mem_iff⟩
example : targetsN 3 { index := 7, backends := [[97], [98], [99]], keys := [] } = [[99], [97], [98]] := by
  decide +kernel

/-! ### oracle soundness: the observer `Spec.RRObs` never raises an alarm on the model

The driver feeds `Spec.RRObs` with the add/remove operations and with the dispatch targets observed
on the IMPLEMENTATION. Here the same observer is fed with the targets of the MODEL
(`Lemmas.RRObs.observe`, one entry per operation, paired with the model's output): on every
well-formed history (`opsOk`: an address is added only when it is not currently a member) it
reports nothing. Together with the differential test (implementation = model on the tested
histories) this says an alarm of the observer on the implementation is never a false alarm caused
by the observer being stricter than the model. -/

open Lemmas.RRObs in
/-- one operation of the model, the observer being told of it and of its output: no report, still coupled -/
theorem obs_step (s : St) (o : Spec.RRObs) (op : Op) (hwf : WF s) (hc : Coupled s o) :
    (obsStep o (op, (step s op).2)).2 = [] ∧ Coupled (step s op).1 (obsStep o (op, (step s op).2)).1 := by
  cases op with
  | add a => exact ⟨rfl, add_step s o a hc⟩
  | remove a => exact ⟨rfl, remove_step s o a hwf.2.2 hc⟩
  | dispatch => exact dispatch_step s o hwf.1 hc

open Lemmas.RRObs in
theorem oracle_sound_from (s : St) (o : Spec.RRObs) (ops : List Op)
    (hwf : WF s) (hc : Coupled s o) (hops : opsOk s ops) :
    observe o (ops.zip (run s ops).2) = [] ∧
    Coupled (run s ops).1 (observeSt o (ops.zip (run s ops).2)).1 := by
  induction ops generalizing s o with
  | nil => exact ⟨rfl, hc⟩
  | cons op ops ih =>
    obtain ⟨h1, h2⟩ := obs_step s o op hwf hc
    have := ih _ _ (wf_step s op hwf hops.1) h2 hops.2
    simpa [run, observeSt, h1] using this

open Lemmas.RRObs in
/-- ORACLE SOUNDNESS. The observer, started empty and fed with a well-formed history of the model
started empty (each operation paired with the model's output for it), reports nothing. -/
theorem C05_oracle_sound (ops : List Op) (hdom : opsOk {} ops) :
    observe {} (ops.zip (run {} ops).2) = [] :=
  (oracle_sound_from {} {} ops wf_init (coupled_fresh {}) hdom).1

open Lemmas.RRObs in
/-- The same from any well-formed state (any cursor), the observer being told the state's list. -/
theorem C05_oracle_sound_from (s : St) (ops : List Op) (hwf : WF s) (hdom : opsOk s ops) :
    observe { members := s.backends, recent := [] } (ops.zip (run s ops).2) = [] :=
  (oracle_sound_from s _ ops hwf (coupled_fresh s) hdom).1

open Lemmas.RRObs in
theorem oracle_members (ops : List Op) (hdom : opsOk {} ops) :
    (observeSt {} (ops.zip (run {} ops).2)).1.members = (run {} ops).1.backends :=
  (oracle_sound_from {} {} ops wf_init (coupled_fresh {}) hdom).2.members

instance (s : St) : (op : Op) → Decidable (opOk s op)
  | .add a => inferInstanceAs (Decidable (a ∉ s.backends))
  | .remove _ => isTrue trivial
  | .dispatch => isTrue trivial

instance opsOkDec : (s : St) → (ops : List Op) → Decidable (opsOk s ops)
  | _, [] => isTrue trivial
  | s, op :: ops => @instDecidableAnd _ _ _ (opsOkDec (step s op).1 ops)

/-- non-vacuity of `hdom`: a history with adds, a re-add after removal, removal of a stranger,
dispatches across membership changes and a drop is well-formed ... -/
example : opsOk {} [.dispatch, .add [97], .add [98], .dispatch, .add [99], .dispatch, .dispatch, .dispatch,
    .dispatch, .remove [100], .dispatch, .remove [98], .dispatch, .dispatch, .add [98], .dispatch,
    .remove [97], .remove [98], .remove [99], .dispatch] := by decide +kernel
/-- ... and its model outputs are these (so the theorem speaks about real rotations) -/
example : (run {} [.dispatch, .add [97], .add [98], .dispatch, .add [99], .dispatch, .dispatch, .dispatch,
    .dispatch, .remove [100], .dispatch, .remove [98], .dispatch, .dispatch, .add [98], .dispatch,
    .remove [97], .remove [98], .remove [99], .dispatch]).2 =
    [none, none, none, some [98], none, some [99], some [97], some [98],
     some [99], none, some [97], none, some [99], some [97], none, some [99],
     none, none, none, none] := by decide +kernel

open Lemmas.RRObs in
/-- `hdom` cannot be dropped: adding a present address twice makes the MODEL itself hand two
consecutive requests to the same address although the observer counts two members ... -/
example : observe {} ([Op.add [97], .add [97], .dispatch, .dispatch].zip
    (run {} [.add [97], .add [97], .dispatch, .dispatch]).2) = ["window-repeats-target"] := by decide +kernel
open Lemmas.RRObs in
/-- ... and after add a, add a, remove a, remove a the model still has `a` in its list (the map
entry went with the first removal, so the second is ignored) while the observer has none. -/
example : observe {} ([Op.add [97], .add [97], .remove [97], .remove [97], .dispatch].zip
    (run {} [.add [97], .add [97], .remove [97], .remove [97], .dispatch]).2) = ["target-not-member"] := by decide +kernel

/-- corner of the model: across a removal the SAME backend can be hit twice in a row (the cursor is
not adjusted when the list shrinks); the observer stays silent only because it restarts its window
at every membership change -- that restart is needed for soundness, not just convenient. -/
example : (run {} [.add [97], .add [98], .add [99], .dispatch, .dispatch, .remove [97], .dispatch]).2 =
    [none, none, none, some [98], some [99], none, some [99]] := by decide +kernel

end Props.C05
