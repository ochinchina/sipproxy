/-
C18 — Static route lookup has fixed precedence and a stable answer.

"For a destination host the configured static routes are consulted with fixed precedence: an
entry whose pattern equals the host literally wins; otherwise an entry whose pattern matches when
'*' stands for any character sequence and '.' only for itself; otherwise the `default` entry;
otherwise the host is not statically routable. The answer is the same every time the same host
is looked up, and a next hop written `host:port` yields that port, or 5060 (5061 for tls) when
the port is omitted."

Model: Side.StaticRoute (preconfig_route.go). Stability: `findRoute` is a function of the table
in configuration order; that the code scans in that order and no longer ranges over a map is the
regenerated fact F7 (Expected.findRoute_no_map_range) plus the 50-fold repetition in stream
`route`. `glob` stands for Go's regexp on the escaped pattern (assumption, DESIGN section 8).
-/
import Side.StaticRoute
import Spec.Side
import Lemmas.Bytes
open GoStd Side.SR

namespace Props.C18

theorem mem_suffixes (h y : Bytes) : y ∈ suffixes h ↔ y <:+ h := by
  induction h with
  | nil => simp [suffixes]
  | cons d ds ih => simp [suffixes, ih, List.suffix_cons_iff]

/-- A pattern without '*' matches exactly itself ('.' included: every byte stands for itself). -/
theorem glob_literal (p h : Bytes) (hp : (42 : UInt8) ∉ p) : glob p h = true ↔ p = h := by
  induction p generalizing h with
  | nil => cases h <;> simp [glob]
  | cons c cs ih =>
    have hc : c ≠ 42 := fun e => hp (by simp [e])
    have hcs : (42 : UInt8) ∉ cs := fun m => hp (by simp [m])
    cases h with
    | nil => simp [glob, hc]
    | cons d ds =>
      simp only [glob, beq_iff_eq, hc, ↓reduceIte, Bool.and_eq_true, ih ds hcs, List.cons.injEq]

/-- '*' stands for any byte sequence: `* :: p` matches h iff some suffix of h matches p. -/
theorem glob_star (p h : Bytes) : glob (42 :: p) h = true ↔ ∃ x y, h = x ++ y ∧ glob p y = true := by
  simp only [glob, beq_self_eq_true, ↓reduceIte, List.any_eq_true, mem_suffixes]
  constructor
  · rintro ⟨y, ⟨x, hx⟩, hg⟩; exact ⟨x, y, hx.symm, hg⟩
  · rintro ⟨x, y, hx, hg⟩; exact ⟨y, ⟨x, hx.symm⟩, hg⟩

theorem glob_cons (c : UInt8) (p h : Bytes) (hc : c ≠ 42) :
    glob (c :: p) h = true ↔ ∃ t, h = c :: t ∧ glob p t = true := by
  cases h with
  | nil => simp [glob, hc]
  | cons d ds =>
    simp only [glob, beq_iff_eq, hc, ↓reduceIte, Bool.and_eq_true, List.cons.injEq]
    constructor
    · rintro ⟨rfl, hg⟩; exact ⟨ds, ⟨rfl, rfl⟩, hg⟩
    · rintro ⟨t, ⟨rfl, rfl⟩, hg⟩; exact ⟨rfl, hg⟩

/-- (1) An entry whose pattern equals the host literally wins. -/
theorem C18_literal_wins (t : Table) (host : Bytes) (it : Item)
    (h : t.find? (fun x => x.dest == host) = some it) : findRoute t host = some it := by
  simp [findRoute, lookupExact, h]

/-- (2) Otherwise the first entry, in configuration order, whose pattern matches. -/
theorem C18_wildcard_next (t : Table) (host : Bytes) (it : Item)
    (hno : t.find? (fun x => x.dest == host) = none)
    (h : t.find? (fun x => glob x.dest host) = some it) :
    findRoute t host = some it ∧ it ∈ t ∧ glob it.dest host = true := by
  refine ⟨by simp [findRoute, lookupExact, hno, h], List.mem_of_find?_eq_some h, ?_⟩
  simpa using List.find?_some h

/-- (3) Otherwise the `default` entry; (4) otherwise not routable. -/
theorem C18_default_last (t : Table) (host : Bytes)
    (hno : t.find? (fun x => x.dest == host) = none)
    (hnw : ∀ x ∈ t, glob x.dest host = false) :
    findRoute t host = t.find? (fun x => x.dest == str "default") := by
  have : t.find? (fun x => glob x.dest host) = none := by
    simp only [List.find?_eq_none]
    intro x hx; simp [hnw x hx]
  simp [findRoute, lookupExact, hno, this]

/-- The model satisfies the oracle that is evaluated on the implementation (Spec.routeAllowed is
written from the property text: literal, else any matching pattern, else default, else none). -/
theorem C18_precedence (t : Table) (host : Bytes) : Spec.routeAllowed t host (findRoute t host) = true := by
  unfold Spec.routeAllowed
  cases hlit : t.find? (fun x => x.dest == host) with
  | some it => simp [C18_literal_wins t host it hlit]
  | none =>
    simp only
    cases hw : t.find? (fun x => glob x.dest host) with
    | some it =>
      obtain ⟨h1, h2, h3⟩ := C18_wildcard_next t host it hlit hw
      have hmem : it ∈ t.filter (fun x => glob x.dest host) := List.mem_filter.mpr ⟨h2, h3⟩
      simp only [List.isEmpty_eq_false_iff.mpr (List.ne_nil_of_mem hmem), Bool.not_false, ↓reduceIte, h1]
      simpa using hmem
    | none =>
      have hnw : ∀ x ∈ t, glob x.dest host = false := fun x hx =>
        Bool.eq_false_iff.mpr (List.find?_eq_none.mp hw x hx)
      have hempty : t.filter (fun x => glob x.dest host) = [] :=
        List.filter_eq_nil_iff.mpr (List.find?_eq_none.mp hw)
      rw [C18_default_last t host hlit hnw]
      simp only [hempty, List.isEmpty_nil, Bool.not_true, Bool.false_eq_true, ↓reduceIte]
      cases t.find? (fun x => x.dest == str "default") <;> simp

/-- The answer is the same every time: the lookup reads nothing but the table and the host. -/
theorem C18_deterministic (t : Table) (host : Bytes) (r₁ r₂ : Option Item)
    (h₁ : r₁ = findRoute t host) (h₂ : r₂ = findRoute t host) : r₁ = r₂ := by rw [h₁, h₂]

/-- `host:port` yields that port. -/
theorem C18_nexthop_with_port (proto dest h p : Bytes) (n : Int) (hp : (58 : UInt8) ∉ p) (ha : atoi p = some n) :
    newItem proto dest (h ++ 58 :: p) = some { protocol := proto, dest := dest, host := h, port := n } := by
  simp [newItem, Lemmas.cutLast_append 58 h p hp, ha]

/-- Without a port: 5060, or 5061 when the protocol is tls (any letter case). -/
theorem C18_nexthop_default_port (proto dest h : Bytes) (hh : (58 : UInt8) ∉ h) :
    newItem proto dest h = some { protocol := proto, dest := dest, host := h,
                                  port := if equalFold (str "tls") proto then 5061 else 5060 } := by
  simp [newItem, Lemmas.cutLast_of_not_mem 58 h hh]

example : glob [42, 46, 97] [120, 46, 97] = true ∧ glob [42, 46, 97] [120, 88, 97] = false := by decide +kernel

end Props.C18
